/-
C10 — internal node recycling is invisible to every open handle.

Layer 1 (here): the abstract version / mark / reclaim protocol (`Gkv/Model/Versions.lean`).  For
EVERY sequence of events — any number of handles and reader pins acquired and released in any
order, lazy loads, mutations, and every choice of which marked nodes a dying version actually
frees — no node of a live version is ever on the free list.
Layer 2: the correspondence harness evaluates the same invariant clauses on the real heap after
every step (no reachable node freed or zeroed, marks only of live versions, current tree
unmarked, reference counts ≥ 1), see bin/check C10.
-/
import Gkv.Model.Versions
import Gkv.Proofs.VersionsFine
import Gkv.Proofs.VersionsLeak
import Gkv.Props.Pins
import Gkv.Gen.Sites

namespace Gkv.Props.C10
open Gkv.Versions

/-- Safety for every reachable state of the protocol -/
theorem recycling_safe (F : Nat → Nat → Prop) (s : St) (hr : Reach F s) :
    ∀ w n, s.refs w > 0 → s.tree w n → ¬ s.freed n := safe_reachable F s hr

/-- the full invariant (reference accounting, chains, mark discipline, unmarked current tree) -/
theorem invariant (F : Nat → Nat → Prop) (s : St) (hr : Reach F s) : HInv s := reach_inv F s hr

/-- live versions are upward closed: a version outlives every older live version -/
theorem live_upward_closed (F : Nat → Nat → Prop) (s : St) (hr : Reach F s) (u d : Nat)
    (h : s.refs u > 0) (hle : u + d ≤ s.N) : s.refs (u + d) > 0 :=
  live_up (reach_inv F s hr) d u h hle

/-! ### marking is not atomic, and mutations may abort (`Model/VersionsFine.lean`) -/

/-- the same safety when a mutation lays its marks one node at a time, interleaved with other
    goroutines' acquire / release / load events, and may abort (read error) with
    `reclaimMarkClear` — for every interleaving -/
theorem recycling_safe_fine (F : Nat → Nat → Prop) (fs : Gkv.VersionsFine.FSt)
    (hr : Gkv.VersionsFine.ReachFine F fs) :
    ∀ w n, fs.base.refs w > 0 → fs.base.tree w n → ¬ fs.base.freed n :=
  Gkv.VersionsFine.fine_safe F fs hr

/-- an aborted mutation that clears its marks restores the full invariant (defect F4's repair) … -/
theorem abort_restores_invariant (F : Nat → Nat → Prop) (fs : Gkv.VersionsFine.FSt)
    (hr : Gkv.VersionsFine.ReachFine F fs) (hi : fs.inflight = true) :
    HInv (Gkv.VersionsFine.fAbort F fs).base := Gkv.VersionsFine.abort_restores_reach F fs hr hi

/-- … and without the clearing it does not: the repair is necessary -/
theorem abort_without_clear_breaks (F : Nat → Nat → Prop) (fs : Gkv.VersionsFine.FSt)
    (h : Gkv.VersionsFine.FInv fs) (hh : fs.base.hp fs.base.N ≥ 2) (n : Nat) (hp : fs.pending n) :
    ¬ HInv (release F fs.base fs.base.N) := Gkv.VersionsFine.abort_without_clear_breaks F fs h hh n hp

/-! ### what is, and what is not, returned to the free list (`Model/VersionsLeak.lean`) -/

/-- once the last version of a closed collection is dead its whole tree has been freed -/
theorem last_version_freed {G : St → Nat → Prop} (hG : ∀ s p, G s p → Gkv.VersionsLeak.GLive s p) {s : St}
    (hr : Gkv.VersionsLeak.ReachG G s) (hN : s.refs s.N = 0) : ∀ n, s.tree s.N n → s.freed n :=
  Gkv.VersionsLeak.last_version_freed hG hr hN

/-- a genuine leak of the protocol (finding F11, see DESIGN.md): a node lazily loaded by a reader
    of an OLD version underneath a node that a later mutation replaced is never freed, even after
    every handle is closed -/
theorem orphan_leak_exists :
    ¬ (∀ s, Reach Gkv.VersionsLeak.FT s → (∀ v, s.refs v = 0) → ∀ n, (∃ v, s.tree v n) → s.freed n) :=
  Gkv.VersionsLeak.all_closed_all_freed_false

/-! ### the protocol's precondition, code side

`recycling_safe` speaks about readers that ACQUIRE a version before they read it and release it
afterwards (the `acquire` / `release` events).  That the code's readers do so is a fact about the
source, regenerated on every run (`Gen/Pins.lean`): every function that reads through a
collection's root takes its own pin and releases it by `defer`, and the only `rootAddRef` calls that
are not paired this way hand the pin to another owner.  A reader that walks a version it has not
pinned itself (seeded change C10g: "snapshots are immutable, skip the pin") refutes this. -/
theorem every_reader_holds_its_version :
    (∀ f ∈ Gkv.Props.Locks.pinnedReaders, (f, true, true) ∈ Gen.Pins.pins) ∧
    (Gen.Pins.pinSites.filter (fun x => x.2 == "paired")).map (·.1) =
      ["Collection.Delete", "Collection.GetItem", "Collection.GetTotals", "Collection.MarshalJSON",
       "Collection.SetItem", "Collection.VisitItemsAscendEx", "Collection.VisitItemsDescendEx",
       "Collection.Write", "Store.walk"] :=
  ⟨Gkv.Props.Locks.readers_pin_and_unpin, by rw [Gkv.Props.Locks.every_pin_site_is_reviewed]; rfl⟩

/-! ### the events of Model H are all the places where the code marks, frees and counts (regenerated)

Model H has the events acquire / release / load / mutate / dec.  `Gen/Sites.lean`, rewritten from
/repo on every run, lists every call of the functions that implement them and every direct
assignment to the fields the protocol lives in.  Reviewed reading:

* `rootAddRef` (acquire) and `rootDecRef` (release): the paired readers of
  `every_reader_holds_its_version`, the three hand-overs (`Flush`, `SetCollection`, `Snapshot`),
  and `closeCollection` (handle close) — called from `Close`, `FlushRevert`, `RemoveCollection`,
  `SetCollection` only;
* `mutate`: `SetItem` / `Delete` — `markReclaimable` only inside `union` / `split` / `join` on the
  node just replaced (set `R`) and once in `Delete` on the removed node with the NEW version's mark
  (`Rn`), `reclaimMarkUpdate` only in `SetItem` / `Delete` after a successful rebuild (`Rn`, `T`),
  `reclaimMarkClear` on every error return (the abort of `VersionsFine`), `rootCAS`, then the
  mutating handle's `rootDecRef`;
* `dec`: `rootDecRefUnlocked` alone marks a whole tree (`markAllUnlocked`), reclaims
  (`reclaimNodesUnlocked` → `freeNodeUnlocked`) and frees a version (`freeRootNodeLoc`);
* `refs` is written only by `rootAddRef` (++), `rootCAS` (++ for the chain), `rootDecRefUnlocked`
  (--) and the two allocator functions; `node.next` only by the five marking functions and the
  allocator.

Seeded changes C10 (mark at handle close), C10e (Delete frees at once), C04h (chain skipped for an
empty successor — a condition, not a site: not seen here, seen by `heapcheck`) … -/
theorem every_mark_and_free_site_is_an_event :
    Gen.Sites.reclaimSites = [
  ("Collection.Delete", "rootAddRef", ""),
  ("Collection.Delete", "rootDecRef", "rnl"),
  ("Collection.Delete", "reclaimMarkClear", "root, &rnl.reclaimMark"),
  ("Collection.Delete", "reclaimMarkClear", "root, &rnl.reclaimMark"),
  ("Collection.Delete", "reclaimMarkClear", "root, &rnl.reclaimMark"),
  ("Collection.Delete", "mkRootNodeLoc", "r"),
  ("Collection.Delete", "reclaimMarkUpdate", "left, &rnl.reclaimMark, &rnlNew.reclaimMark"),
  ("Collection.Delete", "reclaimMarkUpdate", "right, &rnl.reclaimMark, &rnlNew.reclaimMark"),
  ("Collection.Delete", "reclaimMarkUpdate", "middle, &rnl.reclaimMark, &rnlNew.reclaimMark"),
  ("Collection.Delete", "markReclaimable", "rnlNew.reclaimLater[2], &rnlNew.reclaimMark"),
  ("Collection.Delete", "rootCAS", "rnl, rnlNew"),
  ("Collection.Delete", "rootDecRef", "rnl"),
  ("Collection.GetItem", "rootAddRef", ""),
  ("Collection.GetItem", "rootDecRef", "rnl"),
  ("Collection.GetTotals", "rootAddRef", ""),
  ("Collection.GetTotals", "rootDecRef", "rnl"),
  ("Collection.MarshalJSON", "rootAddRef", ""),
  ("Collection.MarshalJSON", "rootDecRef", "rnl"),
  ("Collection.SetItem", "rootAddRef", ""),
  ("Collection.SetItem", "rootDecRef", "rnl"),
  ("Collection.SetItem", "reclaimMarkClear", "root, &rnl.reclaimMark"),
  ("Collection.SetItem", "mkRootNodeLoc", "r"),
  ("Collection.SetItem", "reclaimMarkUpdate", "nloc, &rnl.reclaimMark, &rnlNew.reclaimMark"),
  ("Collection.SetItem", "rootCAS", "rnl, rnlNew"),
  ("Collection.SetItem", "rootDecRef", "rnl"),
  ("Collection.UnmarshalJSON", "rootCAS", "nil, t.mkRootNodeLoc(nloc)"),
  ("Collection.UnmarshalJSON", "mkRootNodeLoc", "nloc"),
  ("Collection.VisitItemsAscendEx", "rootAddRef", ""),
  ("Collection.VisitItemsAscendEx", "rootDecRef", "rnl"),
  ("Collection.VisitItemsDescendEx", "rootAddRef", ""),
  ("Collection.VisitItemsDescendEx", "rootDecRef", "rnl"),
  ("Collection.Write", "rootAddRef", ""),
  ("Collection.Write", "rootDecRef", "rnl"),
  ("Collection.closeCollection", "rootDecRef", "r"),
  ("Collection.markAllUnlocked", "markAllUnlocked", "&n.left, reclaimMark"),
  ("Collection.markAllUnlocked", "markAllUnlocked", "&n.right, reclaimMark"),
  ("Collection.reclaimMarkClear", "reclaimMarkClear", "&n.left, reclaimMark"),
  ("Collection.reclaimMarkClear", "reclaimMarkClear", "&n.right, reclaimMark"),
  ("Collection.reclaimMarkUpdate", "reclaimMarkUpdate", "&n.left, oldReclaimMark, newReclaimMark"),
  ("Collection.reclaimMarkUpdate", "reclaimMarkUpdate", "&n.right, oldReclaimMark, newReclaimMark"),
  ("Collection.reclaimNodesUnlocked", "freeNodeUnlocked", "n, reclaimMark"),
  ("Collection.reclaimNodesUnlocked", "reclaimNodesUnlocked", "left, reclaimLater, reclaimMark"),
  ("Collection.reclaimNodesUnlocked", "reclaimNodesUnlocked", "right, reclaimLater, reclaimMark"),
  ("Collection.rootDecRef", "rootDecRefUnlocked", "r"),
  ("Collection.rootDecRefUnlocked", "rootDecRefUnlocked", "r.chainedRootNodeLoc"),
  ("Collection.rootDecRefUnlocked", "markAllUnlocked", "r.root, &r.reclaimMark"),
  ("Collection.rootDecRefUnlocked", "reclaimNodesUnlocked", "r.root.Node(), &r.reclaimLater, &r.reclaimMark"),
  ("Collection.rootDecRefUnlocked", "reclaimNodesUnlocked", "r.reclaimLater[i], nil, &r.reclaimMark"),
  ("Collection.rootDecRefUnlocked", "freeRootNodeLoc", "r"),
  ("Store.Close", "closeCollection", ""),
  ("Store.Flush", "rootAddRefIfOpen", ""),
  ("Store.Flush", "rootDecRef", "r"),
  ("Store.Flush", "rootDecRef", "rnls[name]"),
  ("Store.FlushRevert", "closeCollection", ""),
  ("Store.RemoveCollection", "closeCollection", ""),
  ("Store.SetCollection", "rootAddRef", ""),
  ("Store.SetCollection", "closeCollection", ""),
  ("Store.SetCollection", "closeCollection", ""),
  ("Store.Snapshot", "rootAddRefIfOpen", ""),
  ("Store.Snapshot", "closeCollection", ""),
  ("Store.join", "markReclaimable", "thisNode, reclaimMark"),
  ("Store.join", "markReclaimable", "thatNode, reclaimMark"),
  ("Store.split", "markReclaimable", "nNode, reclaimMark"),
  ("Store.split", "markReclaimable", "nNode, reclaimMark"),
  ("Store.union", "markReclaimable", "thisNode, reclaimMark"),
  ("Store.union", "markReclaimable", "middleNode, reclaimMark"),
  ("Store.union", "markReclaimable", "thatNode, reclaimMark"),
  ("Store.union", "markReclaimable", "middleNode, reclaimMark"),
  ("Store.walk", "rootAddRef", ""),
  ("Store.walk", "rootDecRef", "rnl")
    ] := by rfl

theorem protocol_fields_written_only_by_the_protocol :
    Gen.Sites.protoAssigns = [
  ("Collection.Delete", "rnlNew.reclaimLater[0] =", "t.reclaimMarkUpdate(left, &rnl.reclaimMark, &rnlNew.reclaimMark)"),
  ("Collection.Delete", "rnlNew.reclaimLater[1] =", "t.reclaimMarkUpdate(right, &rnl.reclaimMark, &rnlNew.reclaimMark)"),
  ("Collection.Delete", "rnlNew.reclaimLater[2] =", "t.reclaimMarkUpdate(middle, &rnl.reclaimMark, &rnlNew.reclaimMark)"),
  ("Collection.SetItem", "rnlNew.reclaimLater[0] =", "t.reclaimMarkUpdate(nloc, &rnl.reclaimMark, &rnlNew.reclaimMark)"),
  ("Collection.freeNodeLoc", "nloc.next =", "freeNodeLocs"),
  ("Collection.freeNodeUnlocked", "n.next =", "freeNodes"),
  ("Collection.freeRootNodeLoc", "rnl.refs =", "0"),
  ("Collection.freeRootNodeLoc", "rnl.chainedCollection =", "nil"),
  ("Collection.freeRootNodeLoc", "rnl.chainedRootNodeLoc =", "nil"),
  ("Collection.freeRootNodeLoc", "rnl.next =", "freeRootNodeLocs"),
  ("Collection.markAllUnlocked", "n.next =", "reclaimMark"),
  ("Collection.markReclaimable", "n.next =", "reclaimMark"),
  ("Collection.mkNode", "n.next =", "nil"),
  ("Collection.mkNodeLoc", "nloc.next =", "nil"),
  ("Collection.mkRootNodeLoc", "rnl.refs =", "1"),
  ("Collection.mkRootNodeLoc", "rnl.next =", "nil"),
  ("Collection.mkRootNodeLoc", "rnl.chainedCollection =", "nil"),
  ("Collection.mkRootNodeLoc", "rnl.chainedRootNodeLoc =", "nil"),
  ("Collection.mkRootNodeLoc", "rnl.superseded =", "false"),
  ("Collection.mkRootNodeLoc", "rnl.reclaimLater[i] =", "nil"),
  ("Collection.reclaimMarkClear", "n.next =", "nil"),
  ("Collection.reclaimMarkUpdate", "n.next =", "newReclaimMark"),
  ("Collection.rootAddRef", "t.root.refs ++", ""),
  ("Collection.rootAddRefIfOpen", "t.root.refs ++", ""),
  ("Collection.rootCAS", "prev.superseded =", "true"),
  ("Collection.rootCAS", "prev.chainedCollection =", "t"),
  ("Collection.rootCAS", "prev.chainedRootNodeLoc =", "t.root"),
  ("Collection.rootCAS", "t.root.refs ++", ""),
  ("Collection.rootDecRefUnlocked", "r.refs --", ""),
  ("Collection.rootDecRefUnlocked", "r.reclaimLater[i] =", "nil"),
  ("newIterator", "it.next =", "make(*ast.ChanType)")
    ] := by rfl

end Gkv.Props.C10
