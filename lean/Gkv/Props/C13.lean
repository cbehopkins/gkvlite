/-
C13 — tree invariants: search order, exact aggregates, heap order, canonical shape.
-/
import Gkv.Props.History
import Gkv.Proofs.Heap
open Std

namespace Gkv.Props.C13
open Gkv Gkv.Tree Gkv.Props.C01

variable (cmp : Bytes → Bytes → Ordering) [TransCmp cmp]

/-- at all times (after every history) the tree is a search tree whose every subtree records its
    exact item count and byte total -/
theorem search_order_and_exact_aggregates (ops : List Mut) :
    BST cmp (ops.foldl (applyTree cmp) .nil) ∧ AggOK (ops.foldl (applyTree cmp) .nil) :=
  have h := foldl_applyTree_spec cmp ops (t := .nil) trivial trivial
  ⟨h.1, h.2.1⟩

/-- "no key is overwritten with a lower priority than it had", as a predicate on histories -/
def NoLowerOverwrite : Tree → List Mut → Prop
  | _, [] => True
  | t, .set i :: ops =>
    (∀ j, get cmp t i.key = some j → j.prio ≤ i.prio) ∧ NoLowerOverwrite (setItem cmp t i) ops
  | t, .del k :: ops => NoLowerOverwrite (delete cmp t k).1 ops

/-- under that hypothesis no child ever outranks its parent -/
theorem heap_order (ops : List Mut) (h : NoLowerOverwrite cmp .nil ops) :
    HeapOK (ops.foldl (applyTree cmp) .nil) := by
  suffices g : ∀ t, HeapOK t → NoLowerOverwrite cmp t ops →
      HeapOK (ops.foldl (applyTree cmp) t) from g .nil trivial h
  clear h
  induction ops with
  | nil => intro t hh _; exact hh
  | cons op ops ih =>
    intro t hh hn
    cases op with
    | set i => exact ih _ (setItem_heap cmp hh i hn.1) hn.2
    | del k => exact ih _ (delete_heap cmp hh k) hn

/-- the hypothesis cannot be dropped (documented behaviour, not a defect) -/
theorem heap_order_needs_hypothesis :
    ∃ (t : Tree) (i : Item), BST cmpBytes t ∧ HeapOK t ∧ ¬ HeapOK (setItem cmpBytes t i) :=
  setItem_heap_needs_hyp

/-- with distinct priorities the shape — hence every item's depth — is a function of the current
    set of (key, priority) pairs alone: two histories that end with the same items end with the same
    shape, whatever the order of operations (and whatever was flushed, evicted or re-opened in
    between: those never change `toList`, see `C01.flush_invisible` and C02) -/
theorem canonical_shape (ops ops' : List Mut)
    (h : NoLowerOverwrite cmp .nil ops) (h' : NoLowerOverwrite cmp .nil ops')
    (hsame : (ops.foldl (applyTree cmp) .nil).toList = (ops'.foldl (applyTree cmp) .nil).toList)
    (hd : ((ops.foldl (applyTree cmp) .nil).toList.map (·.prio)).Nodup) :
    inorderD (ops.foldl (applyTree cmp) .nil) 0 = inorderD (ops'.foldl (applyTree cmp) .nil) 0 := by
  have i1 := search_order_and_exact_aggregates cmp ops
  have i2 := search_order_and_exact_aggregates cmp ops'
  have s1 := heapStrict_of_distinct (heap_order cmp ops h) hd
  have s2 := heapStrict_of_distinct (heap_order cmp ops' h') (hsame ▸ hd)
  exact canonical_depths cmp i1.1 i2.1 s1 s2 hsame 0

end Gkv.Props.C13
