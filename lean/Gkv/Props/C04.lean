/-
C04 — snapshots are isolated, read-only, and harmless to the original.

In the model a snapshot is a VALUE copy of the store; the theorems below are about the executable
history interpreter itself (`World.step`, the function the correspondence runs execute), for
EVERY operation line.  What makes the same true of the Go code, where a snapshot shares nodes
with the original by pointer, is that recycling never frees a node a live version can reach
(`recycling_safe`), and the correspondence stream compares the contents of every open snapshot
and of the original after every step.
-/
import Gkv.Proofs.WorldFrame
import Gkv.Model.Versions

namespace Gkv.Props.C04
open Gkv

/-- a snapshot holds exactly the store's value at the moment Snapshot() was called … -/
theorem snapshot_is_a_value (w : World) (s s2 : String) (a b : Nat) (st : Store)
    (ha : s.toNat? = some a) (hb : s2.toNat? = some b) (hst : assocGet a w.stores = some st) :
    assocGet b (stepTokens w ["snap", s, s2]).1.stores = some { st with readOnly := true } :=
  snap_is_value w s s2 a b st ha hb hst

/-- … and keeps it through EVERY later history that does not itself re-create or close that
    snapshot: mutations, flushes, evictions, collection removal or replacement, Close of the
    original, other snapshots, reads through the snapshot itself -/
theorem snapshot_isolated (w : World) (s s2 : String) (a b : Nat) (st : Store)
    (ha : s.toNat? = some a) (hb : s2.toNat? = some b) (hst : assocGet a w.stores = some st)
    (lines : List String) (h : ∀ l ∈ lines, ¬ writesStoreLine l b) :
    assocGet b (lines.foldl (fun w l => (step w l).1) (stepTokens w ["snap", s, s2]).1).stores
      = some { st with readOnly := true } :=
  Gkv.snapshot_isolated w s s2 a b st ha hb hst lines h

/-- conversely nothing done through other stores (e.g. through a snapshot) changes the original -/
theorem original_unharmed (w : World) (a : Nat) (lines : List String)
    (h : ∀ l ∈ lines, ¬ writesStoreLine l a) :
    assocGet a (lines.foldl (fun w l => (step w l).1) w).stores = assocGet a w.stores :=
  history_frame w lines a h

/-- reads (through any handle) change neither any store nor any file -/
theorem reads_change_nothing (w : World) (ts : List String) (hread : isReadOp ts = true) :
    (stepTokens w ts).1 = w := Gkv.reads_change_nothing w ts hread

/-- snapshots refuse Set, Delete and Flush, and the refusal changes nothing -/
theorem readonly_rejects (w : World) (s n k v p : String) (sid : Nat) (st : Store)
    (hs : s.toNat? = some sid) (hst : assocGet sid w.stores = some st) (hro : st.readOnly = true) :
    ((stepTokens w ["set", s, n, k, v, p]).1 = w ∧
      ((stepTokens w ["set", s, n, k, v, p]).2 = "err-ro" ∨
       (stepTokens w ["set", s, n, k, v, p]).2 = "nocoll" ∨
       (stepTokens w ["set", s, n, k, v, p]).2 = "bad-op")) ∧
    ((stepTokens w ["del", s, n, k]).1 = w ∧
      ((stepTokens w ["del", s, n, k]).2 = "err-ro" ∨
       (stepTokens w ["del", s, n, k]).2 = "nocoll" ∨
       (stepTokens w ["del", s, n, k]).2 = "bad-op")) ∧
    stepTokens w ["flush", s] = (w, "err-ro") := by
  obtain ⟨o, e, ho⟩ := readonly_rejects_set w s n k v p sid st hs hst hro
  obtain ⟨o', e', ho'⟩ := readonly_rejects_del w s n k sid st hs hst hro
  rw [e, e']
  exact ⟨⟨rfl, ho⟩, ⟨rfl, ho'⟩, (flush_refused w s sid st hs hst (.inl hro)).trans (by rw [if_pos hro])⟩

/-- Close and FlushRevert through a snapshot leave the file's bytes alone -/
theorem snapshot_close_and_revert_keep_file (w : World) (s : String) (sid fid : Nat) (st : Store)
    (hs : s.toNat? = some sid) (hst : assocGet sid w.stores = some st) (hro : st.readOnly = true)
    (hf : st.file = some fid) :
    (stepTokens w ["close", s]).1.files = w.files ∧
    ((stepTokens w ["revert", s]).1.file fid).bytes = (w.file fid).bytes :=
  ⟨close_keeps_files w s, revert_readonly_keeps_file_bytes w s sid fid st hs hst hro hf⟩

/-- the Go-side reason: no node of a live version (a snapshot pins one) is ever recycled -/
theorem recycling_safe (F : Nat → Nat → Prop) (s : Gkv.Versions.St) (hr : Gkv.Versions.Reach F s) :
    ∀ w n, s.refs w > 0 → s.tree w n → ¬ s.freed n := Gkv.Versions.safe_reachable F s hr

end Gkv.Props.C04
