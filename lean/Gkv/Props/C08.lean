/-
C08 — FlushRevert restores exactly the previous Flush and always terminates.

Termination: `scanRoots` (the model of readRootsScan + scanBackwardsForMagicEnd after the repair
"fix: FlushRevert never returned when there is no earlier root record") is structurally recursive
on the scan position, so it is total by construction; the pinned loop is modelled separately
below and proved to diverge — that was defect F2.
-/
import Gkv.Proofs.Scan
import Gkv.Proofs.MachineR
import Gkv.Proofs.WorldOps

namespace Gkv.Props.C08
open Gkv

/-- FlushRevert goes from the most recent root record (ending at `E`, wherever `size ≥ E` is —
    `size > E` happens after a failed Flush) to the greatest complete root record strictly below
    it, loads its collections and truncates the file to end there -/
theorem revert_to_previous_flush (st : Store) (fid : Nat) (f : Bytes) (cmpOf : Bytes → CmpKind)
    (E : Nat) (rootsE : List (Bytes × Option Ploc))
    (hcur : rootAt f E = some rootsE) (hEle : E ≤ st.size)
    (habove : ∀ e', E < e' → e' ≤ st.size → rootAt f e' = none)
    (E' : Nat) (roots' : List (Bytes × Option Ploc))
    (hlt : E' < E) (hr : rootAt f E' = some roots')
    (hbetween : ∀ e', E' < e' → e' < E → rootAt f e' = none) :
    revertStore st fid f cmpOf =
      (loadColls f cmpOf roots').map (fun cs =>
        ({ st with size := E', colls := cs, file := some fid }, if st.readOnly then f else f.take E')) := by
  rw [revertStore_prev st fid f cmpOf E rootsE hcur hEle habove E' roots' hlt hr hbetween]
  cases loadColls f cmpOf roots' <;> rfl

/-- reverting past the first flush (or with no flush at all): an empty store with no
    collections, file truncated to zero -/
theorem revert_past_first_flush (st : Store) (fid : Nat) (f : Bytes) (cmpOf : Bytes → CmpKind)
    (h : (∀ e', e' ≤ st.size → rootAt f e' = none) ∨
         (∃ E rootsE, rootAt f E = some rootsE ∧ E ≤ st.size ∧
            (∀ e', E < e' → e' ≤ st.size → rootAt f e' = none) ∧
            ∀ e', e' < E → rootAt f e' = none)) :
    revertStore st fid f cmpOf =
      some ({ st with size := 0, colls := [], file := some fid }, if st.readOnly then f else []) :=
  revertStore_none st fid f cmpOf h

/-- re-opening the truncated file agrees with the reverted store: it opens at the same root -/
theorem reopen_after_revert (f : Bytes) (E' : Nat) (roots' : List (Bytes × Option Ploc))
    (hr : rootAt f E' = some roots') :
    scanRoots (f.take E') false (f.take E').length = .found E' roots' := by
  -- the truncated file is an image of `f` that keeps the bytes below `E'` and has nothing above
  have hlen : (f.take E').length = E' := List.length_take_of_le (rootAt_le_length f E' roots' hr).1
  exact scan_crash_atomic f _ E' roots' hr (Nat.le_of_eq hlen.symm)
    (by rw [List.take_take, Nat.min_self]) (fun e' h1 h2 => by omega) false

/-! ### the pinned loop (defect F2), kept as a model so the finding stays machine-checked -/

inductive Res | found (e : Int) | empty | noRoots | outOfFuel
deriving DecidableEq, Repr

/-- scanBackwardsForMagicEnd as in the pinned tree: new size, `some none` = error, `none` = fuel -/
def scanMagic (magic : Int → Bool) (L : Int) (dflt : Bool) : Nat → Int → Option (Option Int)
  | 0, _ => none
  | f+1, sz =>
    if sz ≤ L then (if dflt then some (some 0) else some none)
    else if magic sz then some (some sz)
    else scanMagic magic L dflt f (sz - 1)

/-- readRootsScan of the pinned tree: after the inner scan defaulted to 0 it still tried to
    decode, failed, decremented and looped -/
def scanPinned (magic valid : Int → Bool) (L : Int) (dflt : Bool) : Nat → Int → Res
  | 0, _ => .outOfFuel
  | f+1, sz =>
    match scanMagic magic L dflt (f+1) sz with
    | none => .outOfFuel
    | some none => .noRoots
    | some (some sz') =>
      if sz' > L ∧ valid sz' then .found sz'
      else scanPinned magic valid L dflt f (sz' - 1)

/-- F2: with defaultToEmpty the pinned loop never terminates once size ≤ rootsLen is reached,
    whatever the file contains and however much fuel it is given -/
theorem pinned_loop_diverges (magic valid : Int → Bool) (L : Int) (hL : 0 ≤ L) :
    ∀ fuel sz, sz ≤ L → scanPinned magic valid L true fuel sz = .outOfFuel := by
  intro fuel
  induction fuel with
  | zero => intro sz _; rfl
  | succ f ih =>
    intro sz hsz
    unfold scanPinned
    have : scanMagic magic L true (f+1) sz = some (some 0) := by simp [scanMagic, hsz]
    rw [this]
    have h0 : ¬ ((0:Int) > L ∧ valid 0 = true) := by omega
    simp only [h0, ↓reduceIte]
    exact ih _ (by omega)

/-! ### history form (store-level machine with FlushRevert, `Gkv/Model/MachineR.lean`) -/

open Gkv.Machine Gkv.MachineR in
/-- for EVERY history of collection operations, Set/Delete, Flush, re-open and FlushRevert — any
    number of flushes, consecutive reverts, reverting past the first flush, new flushes after a
    revert — the store shows exactly what the specification shows, where the specification keeps
    the STACK of completed flushes: Flush pushes, FlushRevert pops and makes the new top (or the
    empty store) current.  Side conditions `RHistOK`: those of C02 plus, at the moment of each
    revert, no key/value bytes forge a complete self-consistent root record.

    PARTIAL.  C03 excludes such bytes in so many words; C08 does not — it quantifies over all
    histories, and a history may store any value.  Without the exclusion the statement is false,
    of the model and of the package: `history_refinement_fails_on_forged_root` below (finding F17). -/
theorem history_refinement_partial (cmpOf : Bytes → CmpKind) (ops : List ROp) (h : RHistOK cmpOf ops) :
    absS (rrun cmpOf ops) = (rspecRun cmpOf ops).cur := rrefinement cmpOf ops h

/-! ### C08 at full strength is false: a value can forge a root record (finding F17) -/

open Gkv.Machine Gkv.MachineR in
/-- the side conditions of `RHistOK` that are limits of the format (plain names, items and file
    below 4 GiB, fewer than 2^32 operations) — everything except "no forged root record" -/
def RLimitsOK (cmpOf : Bytes → CmpKind) (ops : List ROp) : Prop :=
  (∀ op ∈ ops, ROpOK op) ∧ (∀ k, (rrun cmpOf (ops.take k)).size < 2^32) ∧ ops.length < 2^32

/-- a value that is a complete root record — one collection `x`, empty — whose trailer names the
    offset the value will be written at by the second flush of `forgedHist` (135 + 16 + 1) -/
def forgedVal : Bytes := encRoot 152 [([120], none)]

open Gkv.Machine Gkv.MachineR in
def forgedHist : List ROp :=
  [.base (.setColl [97]), .base (.set [97] ⟨[1], [1], 1⟩), .base .flush,
   .base (.set [97] ⟨[2], forgedVal, 2⟩), .base .flush, .revert]

open Gkv.Machine Gkv.MachineR in
/-- where the run of `forgedHist` ends up and what it shows, for the two theorems below: the run is
    evaluated here only -/
theorem forged_run : (rrun (fun _ => .bytes) forgedHist).size = 215 ∧
    absS (rrun (fun _ => .bytes) forgedHist) = [([120], [])] := by
  -- the kernel would run `scanRoots` as it is written: 117 rejected positions, each a `drop` into
  -- the 333 bytes.  The linear scan of `Model/ScanFast` replaces it in compiled code only
  -- (`@[csimp]`), hence the rewrite of the last step to the proved-equal `revertStoreFast` first
  rw [show forgedHist = forgedHist.take 5 ++ [.revert] from rfl, rrun_snoc, rstep, revertStore_eq_fast]
  decide +kernel

open Gkv.Machine Gkv.MachineR in
theorem forgedHist_within_limits : RLimitsOK (fun _ => .bytes) forgedHist := by
  refine ⟨?_, fun k => ?_, by decide⟩
  · -- of the six operations only `setColl` and the two `set`s come with a condition
    simp only [forgedHist, List.forall_mem_cons, List.not_mem_nil, false_imp_iff, implies_true,
      ROpOK, OpOK, and_true, true_and]
    refine ⟨?_, ?_, ?_⟩
    · unfold PlainName; decide
    · unfold ItemOK itemHdrLen; decide
    · unfold ItemOK itemHdrLen; decide +kernel
  · rcases Nat.lt_or_ge k 6 with hk | hk
    · exact (by decide +kernel :
        ∀ k < 6, (rrun (fun _ => .bytes) (forgedHist.take k)).size < 2^32) k hk
    · rw [List.take_of_length_le hk, forged_run.1]
      decide

open Gkv.Machine Gkv.MachineR in
/-- after `forgedHist` the store shows a collection `x` and has lost `a`; the specification — the
    state of the first flush — shows `a` with its item.  Replayed on the package:
    corpus/F17-forged-root-in-value.ops (same outcome). -/
theorem forged_root_misleads_revert :
    absS (rrun (fun _ => .bytes) forgedHist) = [([120], [])] ∧
    (rspecRun (fun _ => .bytes) forgedHist).cur = [([97], [⟨[1], [1], 1⟩])] :=
  ⟨forged_run.2, by decide +kernel⟩

open Gkv.Machine Gkv.MachineR in
/-- C08 for every history within the format's limits is FALSE -/
theorem history_refinement_fails_on_forged_root :
    ¬ ∀ ops, RLimitsOK (fun _ => .bytes) ops →
        absS (rrun (fun _ => .bytes) ops) = (rspecRun (fun _ => .bytes) ops).cur := by
  intro h
  have e := h forgedHist forgedHist_within_limits
  rw [forged_root_misleads_revert.1, forged_root_misleads_revert.2] at e
  exact absurd e (by decide)

open Gkv.Machine Gkv.MachineR in
/-- repeated reverts walk back one Flush at a time, to the empty store past the first one
    (under `RHistOK`, i.e. like `history_refinement_partial` only for histories in which no value
    forges a root record: finding F17) -/
theorem reverts_walk_back (cmpOf : Bytes → CmpKind) (ops : List ROp) (n : Nat) (hn : 0 < n)
    (h : RHistOK cmpOf (ops ++ List.replicate n .revert)) :
    absS (rrun cmpOf (ops ++ List.replicate n .revert))
      = ((rspecRun cmpOf ops).flushed.drop n).headD [] :=
  reverts_walk_back_partial cmpOf ops n hn h

open Gkv.Machine Gkv.MachineR in
/-- after any such history (again under `RHistOK`) the file is truncated to end exactly at the root
    record of the flush on top of the stack (or is empty), and re-opening it shows that flush -/
theorem file_agrees_after_history (cmpOf : Bytes → CmpKind) (ops : List ROp) (h : RHistOK cmpOf ops) :
    (∃ dc, openStore 0 (rrun cmpOf ops).file cmpOf
        = .ok ⟨some 0, (rrun cmpOf ops).file.length, dc, false⟩ ∧
      absColls dc = (rspecRun cmpOf ops).flushed.headD []) ∧
    (rrun cmpOf ops).size = (rrun cmpOf ops).file.length ∧
    (match flushEnds cmpOf ops with
      | [] => (rrun cmpOf ops).file = []
      | e :: _ => e = (rrun cmpOf ops).file.length) :=
  ⟨r_reopen_shows_top cmpOf ops h, (file_ends_at_top_flush cmpOf ops h).2.2.2.1,
   (file_ends_at_top_flush cmpOf ops h).2.2.2.2⟩

-- non-vacuity (evaluated): three flushes, two reverts, a new flush, re-open
#guard Gkv.Machine.absS (Gkv.MachineR.rrun (fun _ => .bytes)
    [.base (.setColl [97]), .base (.set [97] ⟨[1], [1], 1⟩), .base .flush,
     .base (.set [97] ⟨[2], [2], 2⟩), .base .flush, .base (.set [97] ⟨[3], [3], 3⟩), .base .flush,
     .revert, .revert, .base (.set [97] ⟨[4], [4], 4⟩), .base .flush, .base (.del [97] [4]), .base .reopen])
  == [([97], [⟨[1], [1], 1⟩, ⟨[4], [4], 4⟩])]

/-- "memory-only stores reject the call": in the history interpreter a `revert` (and a `flush`)
    through a store without a file answers the refusal and changes nothing — no collection, no
    other store, no file.  The streams compare this with the package for memory-only stores opened
    on the untyped nil AND on a nil pointer of a file type (seeded change C08h: the typed nil
    slipped past the guards and `FlushRevert` wiped the store before failing). -/
theorem memory_only_stores_reject_the_call (w : World) (s : String) (sid : Nat) (st : Store)
    (hs : s.toNat? = some sid) (hst : assocGet sid w.stores = some st) (hf : st.file = none) :
    stepTokens w ["revert", s] = (w, "err-nofile") ∧
    (st.readOnly = false → stepTokens w ["flush", s] = (w, "err-nofile")) :=
  ⟨memory_only_rejects_revert w s sid st hs hst hf,
   fun hrw => (flush_refused w s sid st hs hst (.inr hf)).trans (by rw [if_neg (by simp [hrw])])⟩

/-- not vacuous: a world with one memory-only store meets the hypotheses … -/
example : ∃ (w : World) (st : Store), assocGet 1 w.stores = some st ∧ st.file = none :=
  ⟨{ files := [], stores := [(1, ⟨none, 0, [], false⟩)] }, ⟨none, 0, [], false⟩, rfl, rfl⟩
-- … and (an evaluated test, not a proof) the interpreter refuses there:
#guard (stepTokens (stepTokens { files := [], stores := [] } ["mem", "1"]).1 ["revert", "1"]).2 == "err-nofile"

end Gkv.Props.C08
