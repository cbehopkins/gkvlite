/-
C18 — iterators and re-entrant callbacks terminate cleanly without deadlock or leaks.

Model I (`Gkv/Model/Iter.lean`): the two goroutines of an iterator (consumer running an ARBITRARY
program of Next/Close calls, producer running the visit) as an explicit interleaving system over
the two unbuffered channels.  All theorems hold for every item list (every collection size),
every consumer program and every reachable state, i.e. every interleaving.
-/
import Gkv.Proofs.Iter
import Gkv.Props.Locks
import Gkv.Props.Pins

namespace Gkv.Props.C18
open Gkv.Iter

variable {items : List Nat} {prog : List Cmd}

/-- never a double close or a send on a closed channel -/
theorem no_panic {s : State} (hr : Reach items prog s) : s.panicked = false := Gkv.Iter.no_panic hr

/-- no deadlock: a reachable state either can step or is `Done` (consumer finished its program;
    producer exited, or — only if the iterator was abandoned without Close or exhaustion, which the
    property excludes — blocked waiting for the next token) -/
theorem no_deadlock {s : State} (hr : Reach items prog s) : (∃ s', Step s s') ∨ Done s :=
  Gkv.Iter.progress hr

/-- every execution is finite (a measure decreases at every step of either goroutine) -/
theorem terminates {s s' : State} (st : Step s s') : μ s' < μ s := Gkv.Iter.terminates st

/-- after Close() or exhaustion the producer goroutine has exited and released the version it
    pinned -/
theorem producer_exits_and_unpins {s : State} (hr : Reach items prog s) (hd : Done s)
    (hc : s.closedFlag = true) : s.ppc = .pExited ∧ s.pinned = false :=
  Gkv.Iter.producer_exits hr hd hc

/-- once closed/exhausted, every further Next() answers false (and Close() is a no-op) without
    touching a channel -/
theorem next_after_end_is_false {s s' : State} (hr : Reach items prog s)
    (hc : s.closedFlag = true) (st : Step s s') :
    s'.closedFlag = true ∧
      ((s'.cpc = s.cpc ∧ s'.prog = s.prog ∧ s'.outs = s.outs ∧ s'.nextClosed = s.nextClosed) ∨
        ∃ c r, s.prog = c :: r ∧ s' = { s with prog := r, outs := s.outs ++ [c.closedResult] }) :=
  Gkv.Iter.next_after_end_false hr hc st

/-- the items handed out are, in order, a prefix of the visit's items -/
theorem results_are_a_prefix {s : State} (hr : Reach items prog s) : reported s.outs <+: items :=
  (Gkv.Iter.outputs_prefix hr).1

/-- all interleavings yield the same observable results: those of the sequential specification -/
theorem observable_deterministic {s : State} (hr : Reach items prog s) (hd : Done s) :
    s.outs = spec items prog :=
  Gkv.Iter.done_outs_eq_spec hr hd

/-- re-entrancy: visitor callbacks (`DYN.visitor`, `DYN.v`) are never invoked with a mutex held,
    so API calls made inside them cannot block on a lock held by their own caller -/
theorem callbacks_run_unlocked :
    ∀ x ∈ Gen.Locks.underLock, ∀ i ∈ x.2.2,
      ((Gkv.Props.Locks.N[i]!).startsWith "DYN." = true →
        Gkv.Props.Locks.N[i]! ∈ Gkv.Props.Locks.allowedDynUnderLock) :=
  fun x hx i hi => (Gkv.Props.Locks.no_io_or_callback_under_lock x hx i hi).2

/-- "releases the version it pinned", code side (regenerated `Gen/Pins.lean`): every function that
    reads through a pinned version takes the pin into a local and releases it by `defer` in the
    next statement, and there is no `rootAddRef` call outside the twelve reviewed sites -/
theorem pins_released_on_every_path :
    (∀ f ∈ Gkv.Props.Locks.pinnedReaders, (f, true, true) ∈ Gen.Pins.pins) ∧
    Gen.Pins.pinSites.length = 12 ∧
    (Gen.Pins.pinSites.filter (fun x => x.2 == "kept")).map (·.1) =
      ["Store.Flush", "Store.SetCollection", "Store.Snapshot"] :=
  ⟨Gkv.Props.Locks.readers_pin_and_unpin,
   by rw [Gkv.Props.Locks.every_pin_site_is_reviewed]; rfl,
   by rw [Gkv.Props.Locks.every_pin_site_is_reviewed]; rfl⟩

-- non-vacuity
example : outputs [1, 2, 3] [.next, .next, .close, .next] = [.nextTrue 1, .nextTrue 2, .closed, .nextFalse] := by
  decide

end Gkv.Props.C18
