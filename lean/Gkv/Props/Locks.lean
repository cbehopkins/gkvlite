/-
Lock discipline of the package, proved on the tables REGENERATED from /repo on every run
(Gkv/Gen/Locks.lean, Gkv/Gen/CallGraph.lean).  Shared by C05 and C18 ("no deadlock"):
while any mutex is held, the code performs no file I/O and calls no user callback other than
ItemDecRef, and mutexes are only ever acquired in one fixed order.
-/
import Gkv.Proofs.Graph
import Gkv.Gen.CallGraph
import Gkv.Gen.Locks

namespace Gkv.Props.Locks
open Gkv.Graph

abbrev G := Gen.CallGraph.edges
abbrev N := Gen.CallGraph.names

/-- the certificate is consistent: every call made under a lock is a start node of that lock's
    set, and each set is closed under callees -/
theorem underLock_covers_heldCalls :
    ∀ h ∈ Gen.Locks.heldCalls, ∃ x ∈ Gen.Locks.underLock, x.1 = h.2.2 ∧ idx N h.2.1 ∈ x.2.1 ∧
      idx N h.2.1 < N.length := by decide +kernel

theorem underLock_closed :
    ∀ x ∈ Gen.Locks.underLock, closedF G x.2.2 = true ∧ ∀ i ∈ x.2.1, i ∈ x.2.2 := by decide +kernel

/-- everything that can execute while lock `x.1` is held is in `x.2.2` -/
theorem runs_under_lock_mem (x : String × List Nat × List Nat) (hx : x ∈ Gen.Locks.underLock)
    (a t : Nat) (ha : a ∈ x.2.1) (hr : Reach G a t) : t ∈ x.2.2 :=
  reach_mem_of_closedF (underLock_closed x hx).1 hr ((underLock_closed x hx).2 a ha)

/-- callbacks that may be invoked with a lock held: the item reference release (documented), and
    the closure of AllocStats/withAllocLocks which only copies a struct -/
def allowedDynUnderLock : List String := ["DYN.ItemDecRef", "DYN.cb"]

/-- **no file call and no other dynamic call can run while a mutex is held** -/
theorem no_io_or_callback_under_lock :
    ∀ x ∈ Gen.Locks.underLock, ∀ i ∈ x.2.2,
      (N[i]!).startsWith "FILE." = false ∧
      ((N[i]!).startsWith "DYN." = true → N[i]! ∈ allowedDynUnderLock) := by decide +kernel

/-- the fixed acquisition order -/
def lockRank : String → Nat
  | "rootLock" => 1
  | "freeNodeLock" => 2
  | "freeNodeLocLock" => 3
  | "freeRootNodeLocLock" => 4
  | "m" => 5
  | _ => 0

/-- **mutexes are acquired in strictly increasing rank**: a lock acquired (directly or in any
    callee) while another is held has a strictly higher rank — no cycle, no self-deadlock -/
theorem lock_order :
    ∀ x ∈ Gen.Locks.underLock, lockRank x.1 ≠ 0 ∧
      ∀ i ∈ x.2.2, (N[i]!).startsWith "LOCK." = true →
        lockRank x.1 < lockRank ((N[i]!).drop 5).toString := by decide +kernel

end Gkv.Props.Locks
