/-
C09 — the file is append-only and read paths never write.

Dynamic part (histories): theorems about Model B's Flush / CopyTo / FlushRevert.
Static part (programs): theorems about the call graph REGENERATED from /repo on every run
(Gkv/Gen/CallGraph.lean): no read-only entry point can reach WriteAt or Truncate.
-/
import Gkv.Proofs.FlushFrame
import Gkv.Proofs.Scan
import Gkv.Proofs.Graph
import Gkv.Gen.CallGraph
import Gkv.Gen.CallGraphView

namespace Gkv.Props.C09
open Gkv

/-! ### dynamic -/

/-- every write issued by Flush (with or without a fault) starts at or beyond the store's `size`,
    i.e. at or beyond the end of the last durable root record -/
theorem flush_writes_beyond_durable_end (cs : List Coll) (s : FileSt) :
    ∃ new, (flushStore cs s).2.log = s.log ++ new ∧ LogFrom s.size new := flushStore_log cs s

/-- no byte below that point is ever modified -/
theorem flush_keeps_durable_bytes (cs : List Coll) (s : FileSt) (hsz : s.size ≤ s.bytes.length) :
    (flushStore cs s).2.bytes.take s.size = s.bytes.take s.size := flushStore_prefix cs s hsz

/-- CopyTo writes only to the destination (all its writes are in the destination's log) -/
theorem copyTo_writes_destination_only (src : List Coll) (fe : Int) :
    LogFrom 0 (copyTo src fe).2.log := copyTo_log src fe

/-- FlushRevert truncates only to the end of a root record, or to zero; a read-only store
    (a snapshot) leaves the file untouched -/
theorem revert_truncates_to_root_end (st : Store) (fid : Nat) (f : Bytes) (cmpOf : Bytes → CmpKind)
    (st' : Store) (f' : Bytes) (h : revertStore st fid f cmpOf = some (st', f')) :
    (st.readOnly = true → f' = f) ∧
    (st.readOnly = false → f' = f.take st'.size ∧ (st'.size = 0 ∨ ∃ roots, rootAt f st'.size = some roots)) := by
  unfold revertStore at h
  dsimp only at h
  -- by cases on the second scan: wherever it starts, what it finds is the end of a root record
  split at h
  · next e roots hs =>
    have hr := (scanRoots_found f true _ e roots hs).2.2.1
    split at h
    · cases h
      exact ⟨fun hro => by simp [hro], fun hro => ⟨by simp [hro], .inr ⟨roots, hr⟩⟩⟩
    · cases h
  · cases h
    exact ⟨fun hro => by simp [hro], fun hro => ⟨by simp [hro], .inl rfl⟩⟩

/-! ### static: the regenerated call graph -/

open Gkv.Graph

abbrev G := Gen.CallGraph.edges
abbrev N := Gen.CallGraph.names

/-- the read-only API entry points of the package -/
def readOnlyEntries : List String :=
  ["NewStore", "NewStoreEx", "Store.GetCollection", "Store.GetCollectionNames", "Store.Snapshot",
   "Store.Stats", "Store.Close", "Store.ItemAlloc", "Store.ItemAddRef", "Store.ItemDecRef",
   "Store.ItemValRead", "Store.MakePrivateCollection",
   "Collection.Name", "Collection.GetItem", "Collection.GetAny", "Collection.Get",
   "Collection.ExistAny", "Collection.Exist", "Collection.MinItem", "Collection.MaxItem",
   "Collection.EvictSomeItems", "Collection.IterateAscend", "Collection.IterateDescend",
   "Collection.VisitItemsAscend", "Collection.VisitItemsDescend", "Collection.VisitItemsAscendEx",
   "Collection.VisitItemsDescendEx", "Collection.VisitItemsRandom",
   "Collection.VisitItemsAscendBlockEx", "Collection.Len", "Collection.GetTotals",
   "Collection.MarshalJSON", "Collection.UnmarshalJSON", "Collection.AllocStats",
   "iterator.Next", "iterator.Close", "iterator.Result", "iterator.Err"]

/-- also the in-memory mutators never touch the file: durability only happens in Flush -/
def memoryOnlyEntries : List String :=
  ["Collection.SetItem", "Collection.Set", "Collection.SetAny", "Collection.Delete",
   "Collection.DeleteAny", "Store.SetCollection", "Store.RemoveCollection"]

/-- the certificate: the regenerated `writersHint` is closed under "caller of a member" (one pass over the edges), so
    by `not_reach` nothing outside it reaches a member.  That it is exactly the set of writers is not needed. -/
theorem hint_closed : closed G Gen.CallGraph.writersHint = true := by decide +kernel
/-- the certificate separates the entry points from the sinks: it holds both sinks, and every entry
    point names a node of the graph outside it.  One evaluation: comparing strings is what the
    kernel is slow at, and this way it looks each name up once. -/
theorem hint_separates : idx N "FILE.WriteAt" ∈ Gen.CallGraph.writersHint ∧
    idx N "FILE.Truncate" ∈ Gen.CallGraph.writersHint ∧
    ∀ e ∈ readOnlyEntries ++ memoryOnlyEntries,
      idx N e < N.length ∧ idx N e ∉ Gen.CallGraph.writersHint := by
  simp only [← idxL_eq]
  decide +kernel

theorem entries_exist : ∀ e ∈ readOnlyEntries ++ memoryOnlyEntries, e ∈ N := fun e he =>
  List.idxOf_lt_length_iff.mp (hint_separates.2.2 e he).1

/-- **no read-only entry point (and no in-memory mutator) can reach a file write or truncate**,
    along any static call path — closures, method values, interface dispatch and the reflective
    MarshalJSON/UnmarshalJSON calls included in the graph -/
theorem no_write_reachable (e : String) (he : e ∈ readOnlyEntries ++ memoryOnlyEntries) :
    ¬ Reach G (idx N e) (idx N "FILE.WriteAt") ∧ ¬ Reach G (idx N e) (idx N "FILE.Truncate") :=
  ⟨not_reach hint_closed hint_separates.1 (hint_separates.2.2 e he).2,
   not_reach hint_closed hint_separates.2.1 (hint_separates.2.2 e he).2⟩

/-- the only functions that call WriteAt / Truncate directly -/
theorem write_sites :
    (G.filter (fun e => e.2 == idx N "FILE.WriteAt")).map (fun e => N[e.1]!) =
      ["Store.ItemValWrite", "Store.writeRoots", "itemLoc.write", "nodeLoc.write"] := by decide +kernel
theorem truncate_sites :
    (G.filter (fun e => e.2 == idx N "FILE.Truncate")).map (fun e => N[e.1]!) = ["Store.FlushRevert"] := by
  decide +kernel

/-- tools/view: opens its file read-only and calls only read-only entry points of the package -/
theorem view_read_only :
    "FILE.OpenRW" ∉ Gen.CallGraphView.names ∧ Gen.CallGraphView.writeSinks = [] ∧
    ∀ n ∈ Gen.CallGraphView.names, n.startsWith "gkvlite." = true →
      n ∈ readOnlyEntries.map ("gkvlite." ++ ·) := by decide +kernel

end Gkv.Props.C09
