/-
C15 — item reference counting via callbacks is balanced and never premature.

`Gkv/Model/Refs.lean` is the accounting of the ItemAlloc / ItemAddRef / ItemDecRef callbacks as
an event system over node objects and items: every place where the package takes or drops a
reference is one event kind (mkNode copying a cached item, SetItem's new node, item load with
replacement of an older cached copy, eviction, freeNode, hand-out to the caller, the caller's
release).  Theorems hold for EVERY event sequence that respects the events' preconditions.
The implementation's callback log is checked against the same predicates on every run
(`refcheck`, `refbalance`); with reference to `Get`, see DESIGN.md (the value it returns aliases
the item, so that reference is the caller's).
-/
import Gkv.Proofs.Refs
import Gkv.Proofs.VersionsLeak
import Gkv.Gen.SlotCopies
import Gkv.Gen.Sites

namespace Gkv.Props.C15
open Gkv.Refs

/-- the accounting identity behind everything else: count = nodes caching the item + references
    handed to the caller -/
theorem accounting {s : St} (h : Reach s) :
    ∀ i, s.count i =
      ((s.nodes.countP (fun n => decide (s.cached n = some i)) : Nat) : Int) + (s.handed i : Int) :=
  Gkv.Refs.accounting h

/-- gkvlite never releases a reference it does not hold -/
theorem never_negative {s : St} (h : Reach s) : ∀ i, 0 ≤ s.count i := Gkv.Refs.never_negative h

/-- every item cached in a live node (hence every item reachable from an open collection or
    snapshot) and every item handed to the caller has a positive count -/
theorem reachable_positive {s : St} (h : Reach s) :
    (∀ n i, s.cached n = some i → 0 < s.count i) ∧ (∀ i, 0 < s.handed i → 0 < s.count i) :=
  ⟨Gkv.Refs.reachable_positive h, Gkv.Refs.handed_positive h⟩

/-- "never premature", read from gkvlite's side: every item it is entitled to look at — reached
    through an allocated node that caches it, or held for handing out — has a positive count, so an
    allocator that recycles items at count zero never pulls one away from under it.  Defect F20
    (the ascending visit and the block visitors went on using items they had released) is a use
    OUTSIDE `mayLookAt`; `Proofs/Refs.lean` has that trace as a decided example, and the harness's
    scrubbing allocator is what exhibits such a use on the code. -/
theorem looked_at_items_are_counted {s : St} (h : Reach s) (i : Nat) (hl : mayLookAt s i) :
    0 < s.count i := Gkv.Refs.looked_at_is_counted h i hl

/-- PARTIAL.  The property's last clause ("once the store and all its snapshots are closed, every
    reference gkvlite took has been released") under the hypothesis `hn` that every node object
    was freed, and the caller returned what it was handed.  Whether closing everything frees
    every node is a statement about the version protocol, not about this accounting model; it is
    the theorems below.  It was FALSE of the pinned code (defect F11, `corpus/F11-orphan-leak.ops`,
    repaired by /repo commit "fix: split loads the children of the found node before copying
    their slots"); `slots_loaded_before_copied` is the regenerated obligation that keeps the
    repaired code inside the hypothesis of `nodes_all_freed_if_no_load_under_replaced`. -/
theorem closed_balanced_partial {s : St} (h : Reach s) (hn : s.nodes = []) (hh : ∀ i, s.handed i = 0) :
    ∀ i, s.count i = 0 := Gkv.Refs.closed_balanced h hn hh

/-! ### discharging `hn`: which nodes are freed when everything is closed

Model `VersionsLeak` (versions, handles, marks, free list, lazy loads under a guard `G`).
`GLive` is what the code does: whoever loads a node under `p` holds a live version whose tree
contains `p`.  `GStrict` adds: `p` has not been replaced yet. -/

/-- with the code's loads: once every version's reference count is zero, each node that was ever
    in a tree is on the free list OR is an orphan (never marked, not in the last tree) -/
theorem nodes_freed_or_orphan {s : Gkv.Versions.St}
    (hr : Gkv.VersionsLeak.ReachG Gkv.VersionsLeak.GLive s) (h0 : ∀ v, s.refs v = 0) :
    ∀ n, (∃ v, s.tree v n) → s.freed n ∨ Gkv.VersionsLeak.orphan s n :=
  Gkv.VersionsLeak.all_closed_freed_or_orphan (fun _ _ g => g) hr h0

/-- the hypothesis of `closed_balanced_partial` HOLDS when no node is ever loaded under a node
    that has already been replaced -/
theorem nodes_all_freed_if_no_load_under_replaced {s : Gkv.Versions.St}
    (hr : Gkv.VersionsLeak.ReachG Gkv.VersionsLeak.GStrict s) (h0 : ∀ v, s.refs v = 0) :
    ∀ n, (∃ v, s.tree v n) → s.freed n :=
  Gkv.VersionsLeak.all_closed_all_freed hr h0

/-- … and FAILS without that restriction: a reachable state with every reference count zero and a
    node that is in a tree, not freed, and never will be (the six-event history of
    `VersionsLeak.leak_example`; on the code: `corpus/F11-orphan-leak.ops`) -/
theorem nodes_not_all_freed :
    ¬ (∀ s, Gkv.Versions.Reach Gkv.VersionsLeak.FT s → (∀ v, s.refs v = 0) →
        ∀ n, (∃ v, s.tree v n) → s.freed n) :=
  Gkv.VersionsLeak.all_closed_all_freed_false

/-! ### the code side of `GStrict` (regenerated table)

A reader of an old version can load a node under a replaced node only through a child slot that
was still unloaded when the mutation copied it: a loaded slot is shared by both versions (one node
object), and every node the mutation itself walks is loaded.  `Gen/SlotCopies.lean` is rewritten
from /repo on every run: one row per argument `&X.left` / `&X.right` of a call to `mkNode` or
`Copy`, with whether an earlier call in the same function reads that slot (`numInfo(.., &X.left, ..)`
or `X.left.read(..)`), and how many of its two parameters `numInfo` reads.  Expected: the six
reviewed sites (two in `join`, four in `split`), all guarded; `numInfo` reads both.  "Earlier" is
textual order inside one function, not dominance — the site list is short enough to review, and
that review is what this statement pins down.  With the F11 repair reverted the two `Copy` sites
of `split`'s key-found arm are unguarded and this theorem is refuted. -/
theorem slots_loaded_before_copied :
    Gen.SlotCopies.sites =
      [("Store.join", "thatNode.right", true), ("Store.join", "thisNode.left", true),
       ("Store.split", "nNode.left", true), ("Store.split", "nNode.left", true),
       ("Store.split", "nNode.right", true), ("Store.split", "nNode.right", true)] ∧
    Gen.SlotCopies.numInfoReads = 2 := ⟨by rfl, by rfl⟩

/-! ### the event kinds of `Model/Refs.lean` are all the places where the code counts (regenerated table)

`Model/Refs.lean` claims one event kind per place where the package takes or drops an item
reference.  `Gen/Sites.lean` is rewritten from /repo on every run and lists EVERY call of
`ItemAddRef`, `ItemDecRef` and `ItemAlloc` in the package (enclosing function, callee, argument).
The reviewed reading of each row, i.e. the event of the model it is:

* `mkNode` AddRef(i), `SetItem` AddRef(item) ............ `Ev.mkNode`
* `freeNodeUnlocked` DecRef(i) .......................... `Ev.freeNode`
* `itemLoc.read` ItemAlloc, DecRef(icur) ............... `Ev.load` (new item; the older cached copy)
* `itemLoc.read` six DecRef(i) ......................... the freshly allocated item is dropped on
                                                          each error path and when the casItem race
                                                          is lost (alloc + dec: net zero, no event)
* `evictSomeItems` DecRef(j), DecRef(i); `visitNodes` .. `Ev.evict`
* `GetItem` AddRef(iItem), `walk` AddRef(i) ............. `Ev.handOut`
* `Delete`, `Exist`, `Len`, both block visitors, `CopyTo` `Ev.giveBack` (the package as its own caller)
* `Store.ItemAddRef/ItemDecRef/ItemAlloc` ............... the dispatch wrappers themselves

A change that counts somewhere else, or stops counting at one of these places (seeded changes
C15, C15c, C15h), moves a row and refutes this statement. -/
theorem every_counting_site_is_an_event :
    Gen.Sites.refSites = [
  ("Collection.Delete", "ItemDecRef", "i"),
  ("Collection.Exist", "ItemDecRef", "val"),
  ("Collection.GetItem", "ItemAddRef", "iItem"),
  ("Collection.Len", "ItemDecRef", "si"),
  ("Collection.SetItem", "ItemAddRef", "item"),
  ("Collection.VisitItemsAscendBlockEx", "ItemDecRef", "si"),
  ("Collection.VisitItemsRandom", "ItemDecRef", "si"),
  ("Collection.evictSomeItems", "ItemDecRef", "j"),
  ("Collection.evictSomeItems", "ItemDecRef", "i"),
  ("Collection.freeNodeUnlocked", "ItemDecRef", "i"),
  ("Collection.mkNode", "ItemAddRef", "i"),
  ("Store.CopyTo", "ItemDecRef", "minItem"),
  ("Store.ItemAddRef", "ItemAddRef", "i"),
  ("Store.ItemAlloc", "ItemAlloc", "keyLength"),
  ("Store.ItemDecRef", "ItemDecRef", "i"),
  ("Store.visitNodes", "ItemDecRef", "i"),
  ("Store.walk", "ItemAddRef", "i"),
  ("itemLoc.read", "ItemAlloc", "uint32(keyLength)"),
  ("itemLoc.read", "ItemDecRef", "i"),
  ("itemLoc.read", "ItemDecRef", "i"),
  ("itemLoc.read", "ItemDecRef", "i"),
  ("itemLoc.read", "ItemDecRef", "i"),
  ("itemLoc.read", "ItemDecRef", "i"),
  ("itemLoc.read", "ItemDecRef", "i"),
  ("itemLoc.read", "ItemDecRef", "icur")
    ] := by rfl

end Gkv.Props.C15
