/-
C16 — whole-collection enumerations cover every item exactly once, at every size.
For EVERY search tree (every size n, including 0, 1, sizes that are not a multiple of the block
length and sizes above the maximum block count), every block mangler / shuffle that permutes.
-/
import Gkv.Proofs.Blocks
import Gkv.Gen.Consts
open Std

namespace Gkv.Props.C16
open Gkv Gkv.Tree

variable (cmp : Bytes → Bytes → Ordering) [TransCmp cmp]

/-- Len() is the number of items (0 for the empty collection) -/
theorem len_exact {t : Tree} (h : BST cmp t) : len cmp t = t.toList.length := len_eq cmp h

/-- VisitItemsAscendBlockEx with ANY block reordering presents every item exactly once
    (the delivered list is a permutation of the items) -/
theorem blocks_exactly_once {t : Tree} (h : BST cmp t) (mangle : List Bytes → List Bytes)
    (hm : ∀ l, (mangle l).Perm l) (r : List Item) (hr : visitBlocks cmp t mangle = some r) :
    r.Perm t.toList := visitBlocks_perm cmp h mangle hm r hr

/-- VisitItemsRandom presents every item exactly once, whatever the shuffle -/
theorem random_exactly_once {t : Tree} (h : BST cmp t) (shuffle : List Bytes → List Bytes)
    (hs : ∀ l, (shuffle l).Perm l) (r : List Item) (hr : visitRandom cmp t shuffle = some r) :
    r.Perm t.toList := visitRandom_perm cmp h shuffle hs r hr

/-- the only case in which they report an error instead ("impossible block sizes") is the empty
    collection, where there is nothing to present -/
theorem error_only_when_empty {t : Tree} (h : BST cmp t) (f : List Bytes → List Bytes) :
    (visitBlocks cmp t f = none ↔ t.toList = []) ∧ (visitRandom cmp t f = none ↔ t.toList = []) :=
  ⟨visitBlocks_none cmp h f, visitRandom_none cmp h f⟩

/-- the block count limit of the model is the one in the source -/
theorem gen_maxBlockCnt : Gen.maxBlockCnt = maxBlockCnt := by rfl

-- non-vacuity: three items, blocks of two, reversed block order
example :
    let t := Tree.node (.node .nil ⟨[1], [], 1⟩ 1 1 .nil none none) ⟨[3], [], 9⟩ 3 3
              (.node .nil ⟨[5], [], 2⟩ 1 1 .nil none none) none none
    (visitBlocks cmpBytes t List.reverse).map (·.map (·.key)) = some [[5], [1], [3]] := by decide

end Gkv.Props.C16
