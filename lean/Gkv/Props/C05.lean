/-
C05 — concurrent readers each see one consistent version beside writer and flusher.

Model C (`Gkv/Model/Conc.lean`): one mutator, one flusher, any number of readers, every API call
split into its lock-protected atomic steps; a schedule is an ARBITRARY list of thread ids.  All
theorems quantify over all programs, all numbers of readers and all schedules.

What the model cannot exhibit (and the tie covers by sampled schedules only): Go-memory-model data
races on the unsynchronised cache fills, real scheduler fairness, runtime panics.
-/
import Gkv.Proofs.Conc
import Gkv.Props.Locks
import Gkv.Props.C10   -- C05 presupposes C10 (a pinned version is not recycled): its obligations are this check's too
import Gkv.Proofs.CopyRace
import Gkv.Gen.WriteOrder
import Gkv.Proofs.FlushPin
import Gkv.Gen.Sites

namespace Gkv.Props.C05
open Gkv.Conc

variable (initV : Nat → Val) (prog : List Op) (nColl nFlush : Nat) (rprogs : List (List Nat))
  (sched : List Nat)

/-- every read returns the content of ONE version, which was the current one at an instant
    (`pinTime`) strictly between the call's start and end -/
theorem read_one_version :
    let s := run initV prog nColl nFlush rprogs sched
    ∀ r ∈ s.rds, ∀ e ∈ r.log,
      e.start < e.pinTime ∧ e.pinTime < e.fin ∧
      IsCurrentAt (s.sh.hist e.c) e.idx e.pinTime ∧
      ((s.sh.hist e.c)[e.idx]?).map Version.val = some e.result := by
  intro s r hr e he
  have h := Gkv.Conc.read_one_version initV prog nColl nFlush rprogs sched r hr e he
  exact ⟨h.1, h.2.1, h.2.2.1, h.2.2.2.2⟩

/-- no lost update: the CAS of the single mutator never fails and the published history of every
    collection is exactly the mutator's operations on it, applied in program order -/
theorem no_lost_update :
    let s := run initV prog nColl nFlush rprogs sched
    s.mu.lost = false ∧ s.mu.ncas ≤ prog.length ∧
    ∀ c, (s.sh.hist c).map Version.val =
      ((prog.take s.mu.ncas).filter (fun op => op.1 == c)).scanl (fun v op => op.2 v) (initV c) :=
  Gkv.Conc.no_lost_update initV prog nColl nFlush rprogs sched

/-- every concurrent Flush persists, per collection, a version that was current at its pin
    instant, and the pin instants increase in collection-name order within the Flush -/
theorem flush_persists_current_versions :
    let s := run initV prog nColl nFlush rprogs sched
    ∀ rec ∈ s.fl.log,
      rec.pins.length = nColl ∧ rec.vals.length = nColl ∧
      List.Pairwise (· < ·) (rec.start :: rec.pins.map Pin.time ++ [rec.fin]) ∧
      ∀ c p, rec.pins[c]? = some p →
        p.c = c ∧ IsCurrentAt (s.sh.hist c) p.idx p.time ∧ curAt (s.sh.hist c) p.time = p.idx ∧
        ∃ x, rec.vals[c]? = some x ∧ ((s.sh.hist c)[p.idx]?).map Version.val = some x :=
  Gkv.Conc.flush_versions initV prog nColl nFlush rprogs sched

/-- a later-named collection is never persisted in an older state than it had when an
    earlier-named one was captured -/
theorem flush_name_order :
    let s := run initV prog nColl nFlush rprogs sched
    ∀ rec ∈ s.fl.log, ∀ c c' p p', c < c' → rec.pins[c]? = some p → rec.pins[c']? = some p' →
      p.time < p'.time ∧ curAt (s.sh.hist c') p.time ≤ p'.idx :=
  Gkv.Conc.flush_order initV prog nColl nFlush rprogs sched

/-- no deadlock: in every state every unfinished thread has an enabled step (no step blocks), and
    every fair schedule finishes -/
theorem no_deadlock (s : State) (h : ¬ s.allFinished) :
    ∃ tid, tid < s.nThreads ∧ s.finished tid = false ∧ (step s tid).measure < s.measure :=
  Gkv.Conc.no_deadlock s h

/-- the premise "no step blocks" for the real code: no mutex is held across file I/O or a user
    callback, and mutexes are acquired in one fixed order (regenerated lock tables) -/
theorem locks_never_held_across_io :
    ∀ x ∈ Gen.Locks.underLock, ∀ i ∈ x.2.2,
      (Gkv.Props.Locks.N[i]!).startsWith "FILE." = false ∧
      ((Gkv.Props.Locks.N[i]!).startsWith "DYN." = true →
        Gkv.Props.Locks.N[i]! ∈ Gkv.Props.Locks.allowedDynUnderLock) :=
  Gkv.Props.Locks.no_io_or_callback_under_lock

/-- a pinned version keeps a positive reference count until its unpin, and reference counts never
    underflow; by `C10.recycling_safe` no node of a version with a positive count is recycled -/
theorem pinned_alive (c idx : Nat)
    (hp : 0 < (run initV prog nColl nFlush rprogs sched).holders c idx) :
    1 ≤ (run initV prog nColl nFlush rprogs sched).sh.refs c idx ∧
    (run initV prog nColl nFlush rprogs sched).sh.underflow = false :=
  ⟨Gkv.Conc.pinned_alive initV prog nColl nFlush rprogs sched c idx hp,
   Gkv.Conc.no_underflow initV prog nColl nFlush rprogs sched⟩


/-! ### the unsynchronised copy of an item slot (defect F16)

`itemLoc.Copy` reads a slot's two fields in two steps while the flusher may publish the location
and a reader may evict the cached item in between (`Model/CopyRace.lean`). -/

/-- reading the item first and the location second gives a usable copy (an item or a location to
    reload it from) for EVERY usable source and EVERY sequence of flushes, evictions and reloads
    between the two reads -/
theorem item_copy_never_empty (s : Gkv.CopyRace.Slot) (es : List Gkv.CopyRace.Ev) (h : s.ok = true) :
    (Gkv.CopyRace.copyItemFirst s es).ok = true := Gkv.CopyRace.copyItemFirst_ok s es h

/-- the pinned order (location first) yields a node with neither, on the schedule
    dirty item · Flush · evict -/
theorem item_copy_loc_first_breaks :
    let s : Gkv.CopyRace.Slot := { loc := false, item := true }
    s.ok = true ∧ (Gkv.CopyRace.copyLocFirst s [.flush, .evict]).ok = false :=
  Gkv.CopyRace.copyLocFirst_broken

/-- the code reads in the proved order (regenerated from /repo: position of the first `src.item`
    before the first `src.loc` in `itemLoc.Copy`); the model's assumption that a location is never
    un-published is `WriteOrder.locations_published_after_bytes` (no `setLoc(nil)`) -/
theorem item_copy_reads_item_first : Gen.WriteOrder.copyReadsItemFirst = true := by rfl

/-! ### Model P: pinning the collections of a store while the mutator replaces handles (F21)

`Model/FlushPin.lean`: `Flush` and `Snapshot` read the collection map once and then pin each
collection in name order; the one mutating goroutine may at any moment publish versions and
re-issue `SetCollection` on an existing name, which closes the handle the map held.  A schedule is
an arbitrary `List Ev`.  The repaired walk (`rootAddRefIfOpen`, start over when a handle turns out
to be closed) is `run true`, the pinned tree's (`rootAddRef`) is `run false`. -/

/-- no schedule makes the repaired walk touch a closed handle (the nil dereference of F21) -/
theorem pinning_never_touches_a_closed_handle (n : Nat) (v : Nat → Nat) (es : List Gkv.FlushPin.Ev) :
    (Gkv.FlushPin.run true (Gkv.FlushPin.init n v) es).panicked = false :=
  (Gkv.FlushPin.run_inv (Gkv.FlushPin.init_inv n v) es).ok

/-- … and the walk of the pinned tree could: the counterexample schedule of defect F21 -/
theorem unrepaired_pinning_panics :
    (Gkv.FlushPin.run false (Gkv.FlushPin.init 2 (fun _ => 0))
      [.pin, .pin, .swap 1, .pin]).panicked = true := Gkv.FlushPin.unsafe_panics

/-- C05's last clause for the walk: whatever the schedule, collection `b` is pinned in a state no
    older than the state it had when an earlier-named collection `a` was pinned (`snaps[a]` is the
    ghost record of every collection's version at that moment), and what is pinned is not newer
    than the present -/
theorem pins_taken_in_name_order (n : Nat) (v : Nat → Nat) (es : List Gkv.FlushPin.Ev) :
    let s := Gkv.FlushPin.run true (Gkv.FlushPin.init n v) es
    ∀ a b (ha : a < s.snaps.length) (hb : b < s.pinned.length), a ≤ b →
      (s.snaps[a]) b ≤ s.pinned[b] ∧ s.pinned[b] ≤ s.ver b := by
  intro s a b ha hb hab
  have h := Gkv.FlushPin.run_inv (Gkv.FlushPin.init_inv n v) es
  have hb' : b < s.snaps.length := by rw [h.len_eq]; exact hb
  have e := h.pin_snap b hb' hb
  rw [e]
  exact ⟨h.snap_mono a b ha hb' hab b, h.snap_le b hb' b⟩

/-- the retry loop is not a livelock: from any reachable state, as soon as the mutator leaves the
    collection map alone for `2n + 2` steps of the walk, every collection is pinned -/
theorem pinning_completes_once_the_map_is_quiet (n : Nat) (v : Nat → Nat) (es : List Gkv.FlushPin.Ev)
    (k : Nat) (hk : 2 * n + 2 ≤ k) :
    (Gkv.FlushPin.run true (Gkv.FlushPin.run true (Gkv.FlushPin.init n v) es) (Gkv.FlushPin.quiet k)).done = true := by
  have h := Gkv.FlushPin.run_inv (Gkv.FlushPin.init_inv n v) es
  have hn : (Gkv.FlushPin.run true (Gkv.FlushPin.init n v) es).n = n := Gkv.FlushPin.run_n _ es
  exact Gkv.FlushPin.quiet_period_completes _ h k (by rw [hn]; exact hk)

/-- the statements above are not vacuous: a schedule on which the walk has to start over (the
    mutator swaps the handle of collection 1 after the map was copied) and still pins both
    collections, the second one in its newer version -/
example :
    let s := Gkv.FlushPin.run true (Gkv.FlushPin.init 2 (fun _ => 0))
      [.pin, .pin, .swap 1, .mutate 1, .pin, .pin, .pin, .pin]
    s.done = true ∧ s.restarts = 1 ∧ s.pinned = [0, 1] ∧ s.panicked = false := by decide

/-- the code side (regenerated `Gen/Sites.lean`): `Flush` and `Snapshot` pin through the function
    that tests for a closed handle, and neither calls the unguarded `rootAddRef` -/
theorem flush_and_snapshot_pin_through_the_guarded_function :
    ("Store.Flush", "rootAddRefIfOpen", "") ∈ Gen.Sites.reclaimSites ∧
    ("Store.Snapshot", "rootAddRefIfOpen", "") ∈ Gen.Sites.reclaimSites ∧
    (Gen.Sites.reclaimSites.filter (fun r => r.2.1 == "rootAddRef" &&
      (r.1 == "Store.Flush" || r.1 == "Store.Snapshot"))) = [] := by decide +kernel

end Gkv.Props.C05
