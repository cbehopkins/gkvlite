/-
C07 — file errors are reported, never swallowed, and failed calls change nothing.

Model B carries a fault plan (`FileSt.failAt/torn/failed`): the k-th WriteAt from now fails after
`torn` bytes landed — any k, any torn length.  Flush is the only call of the package that writes;
read paths have no state to damage in the model (a failed read reports `err-io` and returns the
unchanged world: `World.stepTokens2`, `failop`), and their real-code counterparts are covered by
the fault-injection stream (every individual ReadAt/Stat/Truncate/WriteAt, see bin/check C07).
-/
import Gkv.Proofs.FlushFault
import Gkv.Gen.IgnoredErrors

namespace Gkv.Props.C07
open Gkv

/-- a Flush during which the file failed reports failure (never success with other data) -/
theorem fault_is_reported (cs : List Coll) (s : FileSt) (h0 : s.failed = false)
    (k : Nat) (hk : s.failAt = some (k+1)) (hcons : (flushStore cs s).2.failAt = none) :
    (flushStore cs s).2.failed = true := flushStore_fault_reported cs s h0 k hk hcons

/-- a failed (or successful) Flush leaves the store's visible contents exactly as before: names,
    comparators, items, shapes, aggregates — only file locations may have been recorded -/
theorem failed_flush_changes_nothing (cs : List Coll) (s : FileSt) :
    (flushStore cs s).1.map (fun c => (c.name, c.cmp, c.root.eraseLocs)) =
      cs.map (fun c => (c.name, c.cmp, c.root.eraseLocs)) := flushStore_eraseLocs cs s

/-- no failed call damages the durable states already in the file: every byte below the store's
    `size` at the start of the call is untouched, whatever was torn -/
theorem failed_flush_keeps_durable_bytes (cs : List Coll) (s : FileSt) (hsz : s.size ≤ s.bytes.length) :
    (flushStore cs s).2.bytes.take s.size = s.bytes.take s.size := flushStore_prefix cs s hsz

/-- after a failed Flush the cached trees are still coherent with what is on the file, so a
    retried Flush is an ordinary Flush of the same contents (and by C02 makes them durable) -/
theorem retried_flush_is_ordinary (cs : List Coll) (s : FileSt) (hsz : s.size ≤ s.bytes.length)
    (hc : ∀ c ∈ cs, c.root.Coherent s.bytes s.size) (hok : ∀ c ∈ cs, c.root.SizesOK)
    (hlim : (flushStore cs s).2.size < 2^32) :
    (flushStore cs s).2.size ≤ (flushStore cs s).2.bytes.length ∧
    (∀ c ∈ (flushStore cs s).1,
      c.root.Coherent (flushStore cs s).2.bytes (flushStore cs s).2.size) ∧
    (flushStore cs s).1.map (fun c => (c.name, c.cmp, c.root.eraseLocs)) =
      cs.map (fun c => (c.name, c.cmp, c.root.eraseLocs)) :=
  flushStore_retry_ready cs s hsz hc hok hlim

/-- a Flush on which the armed fault did not fire wrote exactly what a fault-free Flush writes -/
theorem unfired_fault_is_invisible (cs : List Coll) (s : FileSt) (h0 : s.failed = false)
    (hok : (flushStore cs s).2.failed = false) :
    (flushStore cs s).2.bytes = (flushStore cs { s with failAt := none }).2.bytes ∧
    (flushStore cs s).2.size = (flushStore cs { s with failAt := none }).2.size ∧
    (flushStore cs s).1 = (flushStore cs { s with failAt := none }).1 :=
  flushStore_unfailed_same_bytes cs s h0 hok


/-! ### no other error is dropped (regenerated table)

`Gen/IgnoredErrors.lean` is rewritten from /repo's typed syntax tree on every run: every call whose
last result is an `error` that is assigned to `_` or not bound at all (fmt's printers and writes to
a `bytes.Buffer`, which cannot fail, left out as `errcheck` does).  The reviewed list:
`Exist` drops `GetItem`'s error (known finding F14: a read error makes it answer `false`);
the public `EvictSomeItems` drops the error of its walk (a best-effort cache hint: no answer to get
wrong; `CopyTo` calls the error-returning `evictSomeItems` instead, cf. defect F13);
`visitNodes` re-reads, twice, a node it has already loaded (never reaches the file);
`dump` is an unexported debug printer.  A new entry — a newly swallowed error — refutes this. -/
theorem no_other_error_is_dropped :
    Gen.IgnoredErrors.sites =
      [("Collection.EvictSomeItems", "evictSomeItems", "blank"),
       ("Collection.Exist", "GetItem", "blank"),
       ("Store.visitNodes", "read", "blank"),
       ("Store.visitNodes", "read", "blank"),
       ("dump", "read", "blank")] := by rfl

end Gkv.Props.C07
