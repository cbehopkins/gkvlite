/-
C11 — CopyTo produces an equivalent, compact, durable copy and leaves the source alone.
-/
import Gkv.Proofs.CopyContents
import Gkv.Proofs.CopyCompact

namespace Gkv.Props.C11
open Gkv

/-- for every source state and EVERY flushEvery value the destination store holds exactly the same
    collections, keys, values and priorities -/
theorem copy_equivalent (src : List Coll) (fe : Int)
    (hb : ∀ c ∈ src, Tree.BST c.cmp.fn c.root)
    (hnames : src.Pairwise (fun a b => compare a.name b.name = .lt)) :
    (copyTo src fe).1.map (fun c => (c.name, c.cmp, c.root.toList)) =
      src.map (fun c => (c.name, c.cmp, c.root.toList)) := copyTo_contents src fe hb hnames

/-- the result does not depend on flushEvery (up to file locations) -/
theorem copy_independent_of_flushEvery (src : List Coll) (fe fe' : Int) :
    (copyTo src fe).1.map (fun c => (c.name, c.cmp, c.root.eraseLocs)) =
      (copyTo src fe').1.map (fun c => (c.name, c.cmp, c.root.eraseLocs)) := copyTo_view_indep src fe fe'

/-- the source is only read: `copyTo` is a function of the source's collections and returns
    nothing but the destination (its collections and its file); all writes are in the destination's
    log, starting from the empty file -/
theorem copy_source_untouched (src : List Coll) (fe : Int) :
    LogFrom 0 (copyTo src fe).2.log ∧ (copyTo src fe).2.failed = false :=
  ⟨copyTo_log src fe, (copyTo_no_fail src fe).1⟩

/-- when flushEvery > 0 the last thing CopyTo does is a Flush of the destination, so by C02
    (`flush_then_open`) the destination file re-opens to that same state; stated here as: the
    final step is `flushStore` -/
theorem copy_ends_with_flush (src : List Coll) (fe : Int) (h : fe > 0) :
    copyTo src fe =
      flushStore (copyColls fe.toNat src [] { bytes := [], size := 0, log := [] }).1
        (copyColls fe.toNat src [] { bytes := [], size := 0, log := [] }).2 := by
  simp [copyTo, h]


/-! ### "holds only live data (no superseded item versions)"

`CopyCompact.copyToW` is `copyTo` returning, in addition, the list of item records it wrote
(`copyToW_fst : (copyToW src fe).1 = copyTo src fe`; `writeItemsW_log`: that list is exactly the
pairs of `WriteAt` events `writeItems` appended to the file's real log).  Node records ARE
superseded by periodic flushes (the evaluated examples in `Proofs/CopyCompact.lean`: 9 or 10 node
records for 7 nodes); item records are not. -/

/-- for `flushEvery > 0` and every well-formed source (the hypotheses of `copy_equivalent`):
    (1) as many item records were written to the destination as the source has items, and as the
        destination has items;
    (2) the records written are, as a multiset, exactly the (item, location) pairs of the
        destination's collections — every record is referenced by a live item and every live item
        has one: no superseded item version is in the file;
    (3) each lies inside the file with the length of its item's record, and they are pairwise
        disjoint. -/
theorem copy_holds_only_live_item_records (src : List Coll) (fe : Int) (hfe : fe > 0)
    (hb : ∀ c ∈ src, Tree.BST c.cmp.fn c.root)
    (hnames : src.Pairwise (fun a b => compare a.name b.name = .lt)) :
    ((Gkv.CopyCompact.copyToW src fe).2.items.length = (src.map (fun c => c.root.toList.length)).sum ∧
     (Gkv.CopyCompact.copyToW src fe).2.items.length =
        ((copyTo src fe).1.map (fun c => c.root.toList.length)).sum) ∧
    (((Gkv.CopyCompact.copyToW src fe).2.items.map (fun r => (r.1, some r.2))).Perm
        (Gkv.CopyCompact.allLocs (copyTo src fe).1)) ∧
    ((∀ x ∈ Gkv.CopyCompact.allLocs (copyTo src fe).1, ∃ p, x.2 = some p ∧ p.len = itemRecLen x.1 ∧
        p.off + p.len ≤ (copyTo src fe).2.size) ∧
     (Gkv.CopyCompact.allLocs (copyTo src fe).1).Pairwise
        (fun x y => ∀ p q, x.2 = some p → y.2 = some q → Gkv.CopyCompact.Disjoint p q)) := by
  obtain ⟨hn, hk⟩ := Gkv.CopyCompact.distinct_of_bst src hb hnames
  exact ⟨Gkv.CopyCompact.copyTo_item_records_of_bst src fe hfe hb hnames,
         Gkv.CopyCompact.copyTo_item_records_perm src fe hfe hn hk,
         Gkv.CopyCompact.copyTo_item_ranges src fe hfe hn hk⟩

/-- the hypotheses are needed: for a source holding one key twice (not a search tree; the API cannot
    build it) a periodic flush leaves a superseded item record in the file — and `flushEvery ≤ 0`
    writes nothing at all -/
theorem copy_live_only_needs_wellformed_source :
    (¬ Gkv.CopyCompact.DistinctKeys Gkv.CopyCompact.srcDupKey ∧
      (Gkv.CopyCompact.copyToW Gkv.CopyCompact.srcDupKey 1).2.items.length = 2 ∧
      Gkv.CopyCompact.items (copyTo Gkv.CopyCompact.srcDupKey 1).1 = 1) :=
  ⟨Gkv.CopyCompact.dupKey_superseded.1, Gkv.CopyCompact.dupKey_superseded.2.2.2.1,
   Gkv.CopyCompact.dupKey_superseded.2.2.2.2.1⟩

end Gkv.Props.C11
