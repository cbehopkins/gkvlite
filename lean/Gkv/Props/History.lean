/-
Histories of one collection, a list of validated Set/Delete calls, run on the treap and on the
sorted-map specification side by side; shared by C01 and C13.  The namespace is `Gkv.Props.C01`:
the C01 theorems are stated with `Mut`, `applyTree`, `applySpec` under those names; C13 opens it,
importing this file rather than `C01.lean` (which brings in the store and cache proofs).
-/
import Gkv.Proofs.TreapSet
import Gkv.Proofs.TreapDel
open Std

namespace Gkv.Props.C01
open Gkv Gkv.Tree

variable (cmp : Bytes → Bytes → Ordering) [TransCmp cmp]

/-- a mutation of one collection, after argument validation -/
inductive Mut
  | set (i : Item)
  | del (k : Bytes)

def applyTree (t : Tree) : Mut → Tree
  | .set i => setItem cmp t i
  | .del k => (delete cmp t k).1

def applySpec (l : List Item) : Mut → List Item
  | .set i => Spec.insert cmp l i
  | .del k => Spec.erase cmp l k

/-- one mutation keeps the tree invariants and does to the in-order list what it does to the
    sorted map -/
theorem applyTree_spec {t : Tree} (hb : BST cmp t) (ha : AggOK t) (op : Mut) :
    BST cmp (applyTree cmp t op) ∧ AggOK (applyTree cmp t op) ∧
      (applyTree cmp t op).toList = applySpec cmp t.toList op := by
  cases op with
  | set i => exact ⟨setItem_bst cmp hb i, setItem_agg cmp ha i, setItem_toList cmp hb i⟩
  | del k => exact ⟨delete_bst cmp hb k, delete_agg cmp ha k, delete_toList cmp hb k⟩

/-- … and so does every history, from any tree that satisfies them -/
theorem foldl_applyTree_spec (ops : List Mut) : ∀ {t : Tree}, BST cmp t → AggOK t →
    BST cmp (ops.foldl (applyTree cmp) t) ∧ AggOK (ops.foldl (applyTree cmp) t) ∧
      (ops.foldl (applyTree cmp) t).toList = ops.foldl (applySpec cmp) t.toList := by
  induction ops with
  | nil => exact fun hb ha => ⟨hb, ha, rfl⟩
  | cons op ops ih =>
    intro t hb ha
    obtain ⟨hb', ha', e⟩ := applyTree_spec cmp hb ha op
    rw [List.foldl_cons, List.foldl_cons, ← e]
    exact ih hb' ha'

end Gkv.Props.C01
