/-
A file location is published only for bytes that have been written (regenerated table).

Model B (`Model/Store.lean`, `writeItems` / `writeNodes`) records a record's location, and advances
`size`, only when every `WriteAt` of that record succeeded; a failed write leaves the node
location-less.  `Props/C02` (re-open gives the last flush), `Props/C05` (a reader that evicts an
item can re-read it) and `Props/C07` (a failed Flush changes nothing visible; a retried Flush is
an ordinary one) are theorems about that model.  This module ties the modelling assumption to
the source: `Gen/WriteOrder.lean` is rewritten from /repo on every run with, for `itemLoc.write`
and `nodeLoc.write`, the number of `setLoc(non-nil)` calls, the number of file-write calls, whether
every publication lies after every file write, whether every file write is error-checked with an
early return, and whether nothing un-publishes a location.
-/
import Gkv.Gen.WriteOrder

namespace Gkv.Props.WriteOrder

/-- in both record writers the location is published exactly once, after all of the record's file
    writes (2 for an item: header+key, value; 1 for a node), each of which returns on error first;
    there is no roll-back of a published location -/
theorem locations_published_after_bytes :
    Gen.WriteOrder.writers =
      [("itemLoc.write", 1, 2, true, true, true), ("nodeLoc.write", 1, 1, true, true, true)] := by rfl

end Gkv.Props.WriteOrder
