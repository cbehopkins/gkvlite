/-
C19 — lazy loading: opening is O(1) and key-only operations never read values.

`Gkv/Model/Lazy.lean` models the file READS of NewStore (the backward scan, position by position,
exactly as store.go performs them) and of item / node loading.  The implementation's read log is
checked against the same facts on every run: `openreads` (exact list) and `readsok` (no read of a
key-only call overlaps the value bytes of ANY item record ever flushed).
-/
import Gkv.Proofs.Lazy
import Gkv.Proofs.FlushTiles
import Gkv.Proofs.Cache

namespace Gkv.Props.C19
open Gkv Gkv.Lazy

/-- opening a file that ends in a root record reads exactly: Stat, the 24-byte tail, the rest of
    that record — three calls, whatever else the file holds -/
theorem open_reads_root_only (f : Bytes) (roots : List (Bytes × Option Ploc))
    (h : rootAt f f.length = some roots) :
    openReads f =
      [Rd.stat, Rd.read (f.length - 24) 24,
       Rd.read (unbe ((f.drop (f.length - 24)).take 8))
         (f.length - unbe ((f.drop (f.length - 24)).take 8) - 24)] :=
  Gkv.Lazy.open_reads_root_only f roots h

/-- … and the number of bytes read is the length of that root record: the cost of opening does
    not depend on how much data the file holds -/
theorem open_cost_is_root_record (f : Bytes) (roots : List (Bytes × Option Ploc))
    (h : rootAt f f.length = some roots) :
    (openReads f).length = 3 ∧
    ((openReads f).map (fun r => match r with | .stat => 0 | .read _ len => len)).sum =
      f.length - unbe ((f.drop (f.length - 24)).take 8) :=
  ⟨open_reads_count f roots h, open_reads_bytes f roots h⟩

/-- a key-only item load (header + key) never touches the item's value bytes -/
theorem keyonly_reads_no_value (loc : Ploc) (kl vl : Nat) :
    ∀ r ∈ itemReads loc kl vl false, ¬ r.touches (valueRange loc kl vl) :=
  Gkv.Lazy.keyonly_reads_no_value loc kl vl

/-- in ANY cache state a key-only traversal (node loads + key-only item loads along a path) touches
    no byte range that lies outside the node records and the header+key ranges it visits — in
    particular no value range of any record, since records of a file never overlap
    (`records_never_overlap`) -/
theorem keyonly_traversal_reads (p : List Visit) (rng : Nat × Nat)
    (hn : ∀ v ∈ p, rng.1 + rng.2 ≤ v.nodeLoc.off ∨ v.nodeLoc.off + nodeRecLen ≤ rng.1)
    (hi : ∀ v ∈ p, rng.1 + rng.2 ≤ v.itemLoc.off ∨ v.itemLoc.off + itemHdrLen + v.kl ≤ rng.1) :
    ∀ r ∈ pathReads p, ¬ r.touches rng := pathReads_disjoint p rng hn hi

/-- the writes of one Flush tile the file consecutively, so distinct records never overlap -/
theorem records_never_overlap (cs : List Coll) (s : FileSt) (hf : s.failed = false)
    (hp : s.failAt = none) (l1 l2 l3 : List FileEv) (o1 n1 o2 n2 : Nat)
    (h : (flushStore cs s).2.log = s.log ++ (l1 ++ .write o1 n1 :: l2 ++ .write o2 n2 :: l3)) :
    s.size ≤ o1 ∧ o1 + n1 ≤ o2 ∧ o2 + n2 ≤ (flushStore cs s).2.size :=
  flush_writes_disjoint cs s hf hp l1 l2 l3 o1 n1 o2 n2 h

/-- the model can tell a value-fetching implementation from a lazy one: with the value requested
    the value range IS read -/
theorem withvalue_reads_value (loc : Ploc) (kl vl : Nat) (hv : 0 < vl) :
    ∃ r ∈ itemReads loc kl vl true, r.touches (valueRange loc kl vl) :=
  withvalue_touches_value loc kl vl hv

/-! ### the same for the traversal itself (Model L, `Model/Cache.lean`)

`keyonly_traversal_reads` above speaks about an abstract list of visited nodes.  Model L is the
lazily loaded tree with `nodeLoc.read`, `itemLoc.read`, `node.Evict`, `GetItem`, `walk`
(`MinItem`/`MaxItem`), `evictSomeItems` and `visitNodes` (range visits, run to the end or stopped)
as the Go code performs them, reads included; the correspondence compares its read lists and
cache transitions with the implementation's (`cget`/`cmin`/`cmax`/`cevict`/`cvisit` lines). -/

open Gkv.Cache in
/-- Any history of `GetItem`/`MinItem`/`MaxItem` with `withValue = false` and evictions, started in
    ANY cache state of a collection whose tree is coherent with the file, reads no byte of a range
    that overlaps neither a node record nor the header+key part of an item record of that tree —
    so no byte of any item's value, since records do not overlap (`records_never_overlap`). -/
theorem keyonly_history_reads_no_value (f : Bytes) (bound : Nat) (cmp : Bytes → Bytes → Ordering)
    (fuel : Nat) (T : Tree) (hc : T.Coherent f bound) (hf : T.height < fuel)
    (ops : List COp) (hk : ∀ op ∈ ops, op.wv = false) (c : CTree) (hr : Rep c T)
    (rng : Nat × Nat) (hd : KeyDisjoint rng T) :
    ∃ outs c' rds, runC f cmp fuel ops c = some (outs, c', rds) ∧
      ∀ rd ∈ rds, ¬ rd.touches rng := by
  obtain ⟨outs, c', rds, e, -, -, h⟩ := runC_spec f bound cmp fuel T hc hf ops c hr
  exact ⟨outs, c', rds, e, fun rd hrd =>
    allowed_false_no_touch (h false (fun op ho hw => (hk op ho).symm.trans hw) rd hrd) rng hd⟩

open Gkv.Cache in
/-- … and a whole range visit with `withValue = false`, in either direction, from any cached view -/
theorem keyonly_visit_reads_no_value (f : Bytes) (bound : Nat) (cmp : Bytes → Bytes → Ordering)
    (asc : Bool) (tgt : Bytes) (fuel : Nat) (c : CTree) (T : Tree) (d : Nat)
    (hc : T.Coherent f bound) (hr : Rep c T) (hf : T.height < fuel)
    (rng : Nat × Nat) (hd : KeyDisjoint rng T) :
    ∃ out c' rds, visitC f cmp asc false fuel c tgt d = some (out, c', rds) ∧
      ∀ rd ∈ rds, ¬ rd.touches rng := by
  obtain ⟨out, c', rds, e, _, _, h⟩ := visitC_spec f bound cmp asc false tgt fuel c T d hc hr hf
  exact ⟨out, c', rds, e, fun rd hrd => allowed_false_no_touch (h rd hrd) rng hd⟩

open Gkv.Cache in
/-- … also when the visitor stops it at its `b`-th item (the deferred evictions and the early
    returns read nothing else) -/
theorem keyonly_stopped_visit_reads_no_value (f : Bytes) (bound : Nat) (cmp : Bytes → Bytes → Ordering)
    (asc : Bool) (tgt : Bytes) (fuel : Nat) (c : CTree) (T : Tree) (d b : Nat)
    (hc : T.Coherent f bound) (hr : Rep c T) (hf : T.height < fuel) (hb : 0 < b)
    (rng : Nat × Nat) (hd : KeyDisjoint rng T) :
    ∃ out b' c' rds, visitCK f cmp asc false fuel c tgt d b = some (out, b', c', rds) ∧
      ∀ rd ∈ rds, ¬ rd.touches rng := by
  obtain ⟨out, b', c', rds, e, -, -, -, h, -⟩ :=
    visit_spec f bound cmp asc false tgt fuel c T d b hc hr hf
  exact ⟨out, b', c', rds, e, fun rd hrd => allowed_false_no_touch (h rd hrd) rng hd⟩

open Gkv.Cache in
/-- all of it in one statement: ANY history of key-only lookups, Min/Max, evictions and key-only
    range visits (run to the end or stopped anywhere), in any order, from any cached view, reads no
    byte outside node records and header+key ranges of the tree -/
theorem keyonly_mixed_history_reads_no_value (f : Bytes) (bound : Nat) (cmp : Bytes → Bytes → Ordering)
    (fuel : Nat) (T : Tree) (hc : T.Coherent f bound) (hf : T.height < fuel)
    (ops : List COp2) (hk : ∀ op ∈ ops, op.wv = false) (c : CTree) (hr : Rep c T)
    (rng : Nat × Nat) (hd : KeyDisjoint rng T) :
    ∃ outs c' rds, runC2 f cmp fuel ops c = some (outs, c', rds) ∧
      ∀ rd ∈ rds, ¬ rd.touches rng := by
  obtain ⟨outs, c', rds, e, -, -, h⟩ := runC2_spec f bound cmp fuel T hc hf ops c hr
  exact ⟨outs, c', rds, e, fun rd hrd =>
    allowed_false_no_touch (h false (fun op ho hw => (hk op ho).symm.trans hw) rd hrd) rng hd⟩

open Gkv.Cache in
/-- non-vacuity / discrimination: on a one-item file the cold key-only lookup reads the node record,
    the header and the key — and the lookup with the value also reads the value bytes -/
example :
    let it : Item := ⟨[7], [9, 9], 3⟩
    let f : Bytes := encItem it ++ encNode ⟨some ⟨0, 19⟩, none, none, 1, 3⟩
    (getC f cmpBytes false 5 (.stub ⟨19, 52⟩) [7]).map (fun x => (x.1, x.2.2)) =
        some (some ⟨[7], 3, none⟩, [Rd.read 19 52, Rd.read 0 16, Rd.read 16 1]) ∧
    (getC f cmpBytes true 5 (.stub ⟨19, 52⟩) [7]).map (fun x => (x.1, x.2.2)) =
        some (some ⟨[7], 3, some [9, 9]⟩,
          [Rd.read 19 52, Rd.read 0 16, Rd.read 16 1, Rd.read 0 16, Rd.read 16 1, Rd.read 17 2]) := by
  decide +kernel

end Gkv.Props.C19
