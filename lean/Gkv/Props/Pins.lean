/-
Which functions of the package pin a collection's version and release it again, read off the table
REGENERATED from /repo on every run (Gkv/Gen/Pins.lean); shared by C10 and C18.
-/
import Gkv.Gen.Pins

-- The namespace is that of `Props/Locks.lean`, under which C10 and C18 cite these declarations; the file is apart so that
-- C10 does not import the lock tables.
namespace Gkv.Props.Locks

/-- every exported read operation of a collection brackets its work with a version pin:
    `rnl := rootAddRef()` … `defer rootDecRef(rnl)` (directly, or by delegating to one that does) -/
def pinnedReaders : List String :=
  ["Collection.GetItem", "Collection.GetTotals", "Collection.VisitItemsAscendEx",
   "Collection.VisitItemsDescendEx", "Collection.MarshalJSON", "Store.walk",
   "Collection.SetItem", "Collection.Delete", "Collection.Write"]

/-- evaluated on the few rows whose first flag is set: looking nine names up among all the functions
    of the package is an order of magnitude more string comparisons -/
theorem readers_pin_and_unpin :
    ∀ f ∈ pinnedReaders, (f, true, true) ∈ Gen.Pins.pins := fun f hf =>
  (List.mem_filter.mp ((by decide +kernel :
    ∀ f ∈ pinnedReaders, (f, true, true) ∈ Gen.Pins.pins.filter (·.2.1)) f hf)).1

/-- every call of `rootAddRef` in the package is one of the twelve reviewed sites: nine take the
    pin into a local that the very next statement releases by `defer` (whatever path the function
    leaves by), three hand it to another owner — the new handle of `SetCollection`, the handles of a
    `Snapshot`, and `Flush`'s map of pins (released by its deferred loop).  A new pin site, or one of
    the nine losing its `defer` (seeded change C18b), refutes this. -/
theorem every_pin_site_is_reviewed :
    Gen.Pins.pinSites =
      [("Collection.Delete", "paired"), ("Collection.GetItem", "paired"), ("Collection.GetTotals", "paired"),
       ("Collection.MarshalJSON", "paired"), ("Collection.SetItem", "paired"),
       ("Collection.VisitItemsAscendEx", "paired"), ("Collection.VisitItemsDescendEx", "paired"),
       ("Collection.Write", "paired"), ("Store.Flush", "kept"), ("Store.SetCollection", "kept"),
       ("Store.Snapshot", "kept"), ("Store.walk", "paired")] := by rfl

end Gkv.Props.Locks
