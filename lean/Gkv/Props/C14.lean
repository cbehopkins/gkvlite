/-
C14 — files conform to the v4 layout and decode independently to the flushed state.

The codec of Gkv/Model/Codec.lean is written from the format description, not from the Go encoder;
it is the "independent decoder".  The constants it uses are tied to the source by the
obligations at the end of this file, which are about the table REGENERATED from /repo on every
run (Gkv/Gen/Consts.lean).
-/
import Gkv.Proofs.Codec
import Gkv.Proofs.CodecFull
import Gkv.Proofs.CrashOpen
import Gkv.Gen.Consts

namespace Gkv.Props.C14
open Gkv

/-- item records are self-delimiting and round-trip -/
theorem item_roundtrip (pre post : Bytes) (i : Item)
    (hk : i.key.length < 2^32) (hv : i.val.length < 2^32) (hp : i.prio < 2^32)
    (ht : itemHdrLen + i.key.length + i.val.length < 2^32) :
    decItem (pre ++ encItem i ++ post) ⟨pre.length, itemRecLen i⟩ = some i ∧
      (encItem i).length = itemRecLen i :=
  ⟨decItem_at pre post i ⟨hk, hv, hp, ht⟩, encItem_length i⟩

/-- node records are fixed-size (52 bytes) and round-trip -/
theorem node_roundtrip (pre post : Bytes) (n : NodeRec)
    (hi : ∀ q, n.item = some q → q.off < 2^64 ∧ q.len < 2^32 ∧ ¬ (q.off = 0 ∧ q.len = 0))
    (hl : ∀ q, n.left = some q → q.off < 2^64 ∧ q.len < 2^32 ∧ ¬ (q.off = 0 ∧ q.len = 0))
    (hr : ∀ q, n.right = some q → q.off < 2^64 ∧ q.len < 2^32 ∧ ¬ (q.off = 0 ∧ q.len = 0))
    (hn : n.nn < 2^64) (hb : n.nb < 2^64) :
    decNode (pre ++ encNode n ++ post) ⟨pre.length, nodeRecLen⟩ = some n ∧ (encNode n).length = 52 :=
  ⟨decNode_at pre post n ⟨hi, hl, hr, hn, hb⟩, encNode_length n⟩

/-- root records: framed by doubled magics, version, both lengths, and the JSON map; a root record
    appended at the end of a file is found there and decodes to the map that was written.
    `_partial`: collection names that need JSON escapes are outside this theorem (they are
    handled by the executable codec and covered by the correspondence runs). -/
theorem root_roundtrip_partial (pre : Bytes) (es : List (Bytes × Option Ploc))
    (hn : ∀ e ∈ es, PlainName e.1) (hp : ∀ e ∈ es, ∀ q, e.2 = some q → ¬ (q.off = 0 ∧ q.len = 0))
    (hsz : pre.length + (encRoot pre.length es).length < 2^32) :
    rootAt (pre ++ encRoot pre.length es) (pre.length + (encRoot pre.length es).length) = some es :=
  rootAt_encRoot pre es hp hsz

/-- root records round-trip for ARBITRARY collection names (every byte string: quotes, backslashes,
    control bytes, `<>&`, U+2028/U+2029 and bytes >= 0x80 included).

    This is a theorem about the MODEL's codec, which passes bytes >= 0x80 through unchanged.  Go's
    `encoding/json` does that only inside well-formed UTF-8 sequences and writes U+FFFD otherwise,
    so for names that are not valid UTF-8 the model's codec is NOT the package's — and the package
    lost such names on re-open (defect F18, found by asking exactly this question of this theorem).
    The repaired `Flush` refuses such names, so the codec is only ever applied to names on
    which the two agree; the model's `flush` carries the same guard (`validUTF8`, `Model/AnyKey.lean`
    and the driver), and profiles C02 and C12 generate such names. -/
theorem root_roundtrip (pre : Bytes) (es : List (Bytes × Option Ploc))
    (hp : ∀ e ∈ es, ∀ q, e.2 = some q → ¬ (q.off = 0 ∧ q.len = 0))
    (hsz : pre.length + (encRoot pre.length es).length < 2^32) :
    rootAt (pre ++ encRoot pre.length es) (pre.length + (encRoot pre.length es).length) = some es :=
  rootAt_encRoot pre es hp hsz

/-- the independent decoder reconstructs, from the last root record of a flushed file, exactly
    the flushed state (names, comparators, items, aggregates, and the locations themselves) -/
theorem decode_flushed_file (fid : Nat) (cmpOf : Bytes → CmpKind) (cs : List Coll) (s : FileSt)
    (hf : s.failed = false) (hp : s.failAt = none) (hsz : s.size = s.bytes.length)
    (hc : ∀ c ∈ cs, c.root.Coherent s.bytes s.size) (hok : ∀ c ∈ cs, c.root.SizesOK)
    (hnames : cs.Pairwise (fun a b => compare a.name b.name = .lt))
    (hplain : ∀ c ∈ cs, PlainName c.name) (hcmp : ∀ c ∈ cs, cmpOf c.name = c.cmp)
    (hlim : (flushStore cs s).2.size < 2^32) :
    openStore fid (flushStore cs s).2.bytes cmpOf
      = .ok ⟨some fid, (flushStore cs s).2.size, (flushStore cs s).1, false⟩ :=
  flush_then_open fid cmpOf cs s hf hp hsz hc hok hnames hplain hcmp hlim

/-- node records are written after their children: in a coherent persisted tree every child
    location lies below its parent's record — stated via `Coherent`'s `NodeAt` bound: everything a
    record points to is itself coherent below the same bound (see `Tree.Coherent`). -/
theorem flushed_trees_coherent (cs : List Coll) (s : FileSt) (hf : s.failed = false)
    (hp : s.failAt = none) (hsz : s.size ≤ s.bytes.length)
    (hc : ∀ c ∈ cs, c.root.Coherent s.bytes s.size) (hok : ∀ c ∈ cs, c.root.SizesOK)
    (hlim : (flushStore cs s).2.size < 2^32) :
    ∀ c ∈ (flushStore cs s).1,
      c.root.Coherent (flushStore cs s).2.bytes (flushStore cs s).2.size ∧ c.root.Persisted :=
  flushStore_coherent cs s hf hp hsz hc hok hlim

/-! ### obligations on the constants regenerated from /repo -/

theorem gen_version : Gen.version = fmtVersion := by rfl
theorem gen_magicBeg : Gen.magicBeg = magicBeg := by rfl
theorem gen_magicEnd : Gen.magicEnd = magicEnd := by rfl
theorem gen_plocLength : Gen.plocLength = plocLen := by rfl
theorem gen_itemHdr : Gen.itemLocHdrLength = itemHdrLen ∧ Gen.lenLoc = 0 ∧ Gen.keyLoc = 4 ∧
    Gen.valLoc = 8 ∧ Gen.priLoc = 12 ∧ Gen.priSz = 16 ∧ Gen.keyPSize = 4 := by decide
theorem gen_nodeRecLen : Gen.nodeRecLens = [nodeRecLen] := by rfl
theorem gen_rootsLen : Gen.rootsEndLen = rootsEndLen ∧ Gen.rootsLen = rootsLen := by decide
theorem gen_plocJson : Gen.plocFields = [("Offset", "int64", "o"), ("Length", "uint32", "l")] := by rfl
theorem gen_bigEndian : Gen.byteOrders = ["BigEndian"] := by rfl
theorem gen_setItemGuards : Gen.setItemGuards =
    ["item.Key == nil", "len(item.Key) > 0xffff", "len(item.Key) == 0", "item.Val == nil",
     "item.Priority < 0"] := by rfl

end Gkv.Props.C14
