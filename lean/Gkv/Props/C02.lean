/-
C02 — a successful Flush makes the entire store state durable.

The store-level state machine `Gkv.Machine` (`Gkv/Model/Machine.lean`) runs an ARBITRARY history
of SetCollection / RemoveCollection / SetItem / Delete / Flush / re-open next to the specification
"a sorted map per name, plus the state as of the last Flush".
-/
import Gkv.Proofs.Machine

namespace Gkv.Props.C02
open Gkv Gkv.Machine

/-- one Flush, then NewStore on the bytes: exactly the flushed collections, locations included -/
theorem flush_then_reopen (fid : Nat) (cmpOf : Bytes → CmpKind) (cs : List Coll) (s : FileSt)
    (hf : s.failed = false) (hp : s.failAt = none) (hsz : s.size = s.bytes.length)
    (hc : ∀ c ∈ cs, c.root.Coherent s.bytes s.size) (hok : ∀ c ∈ cs, c.root.SizesOK)
    (hnames : cs.Pairwise (fun a b => compare a.name b.name = .lt))
    (hplain : ∀ c ∈ cs, PlainName c.name) (hcmp : ∀ c ∈ cs, cmpOf c.name = c.cmp)
    (hlim : (flushStore cs s).2.size < 2^32) :
    openStore fid (flushStore cs s).2.bytes cmpOf
      = .ok ⟨some fid, (flushStore cs s).2.size, (flushStore cs s).1, false⟩ :=
  flush_then_open fid cmpOf cs s hf hp hsz hc hok hnames hplain hcmp hlim

/-- … with the same names, comparators, keys, values, priorities and totals as before the Flush -/
theorem flush_then_reopen_contents (cs : List Coll) (s : FileSt) :
    (flushStore cs s).1.map (fun c => (c.name, c.cmp, c.root.toList, c.root.nn, c.root.nb))
      = cs.map (fun c => (c.name, c.cmp, c.root.toList, c.root.nn, c.root.nb)) :=
  flushStore_contents cs s

/-- **history form**: for every history, at every moment, what re-opening the file would show is
    the state at the most recent Flush — whatever unflushed operations (mutations, creating or
    removing collections) followed it; and this keeps holding after re-opening and continuing,
    to any depth (the history may contain any number of `reopen`s) -/
theorem reopen_is_last_flush (cmpOf : Bytes → CmpKind) (ops : List SOp)
    (h : HistOK cmpOf (ops ++ [.reopen])) :
    absS (srun cmpOf (ops ++ [.reopen])) = (specRun cmpOf ops).durable :=
  reopen_shows_last_flush cmpOf ops h

/-- at every moment the bytes on file decode (by `openStore`: the backward scan and the strict
    decoders of `Model/Codec.lean`) to the last flushed state -/
theorem unflushed_work_never_written (cmpOf : Bytes → CmpKind) (ops : List SOp) (h : HistOK cmpOf ops) :
    ∃ dc, openStore 0 (srun cmpOf ops).file cmpOf
        = .ok ⟨some 0, (srun cmpOf ops).file.length, dc, false⟩ ∧
      absColls dc = (specRun cmpOf ops).durable :=
  durable_is_last_flush cmpOf ops h

/-- the whole store refines the specification along every history (shared with C01 and C12) -/
theorem store_refines_spec (cmpOf : Bytes → CmpKind) (ops : List SOp) (h : HistOK cmpOf ops) :
    absS (srun cmpOf ops) = (specRun cmpOf ops).cur := refinement cmpOf ops h

-- non-vacuity (an evaluated test, not a proof): set, flush, delete (unflushed), re-open: the item is back
#guard absS (srun (fun _ => .bytes)
    [.setColl [97], .set [97] ⟨[1], [2], 3⟩, .flush, .del [97] [1], .reopen]) == [([97], [⟨[1], [2], 3⟩])]

end Gkv.Props.C02
