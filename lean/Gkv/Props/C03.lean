/-
C03 — a crash at any point leaves the last completed Flush recoverable, atomically.

`rootAt f e = some roots` is the decidable statement "a complete, self-consistent root record ends
at offset e of f" (both end magics, offset and length fields consistent, both begin magics,
version 4, inner length equal, JSON decodes); it inspects only bytes below e (`rootAt_congr`).
-/
import Gkv.Proofs.Scan
import Gkv.Proofs.FlushFrame
import Gkv.Proofs.CrashOpen

namespace Gkv.Props.C03
open Gkv

/-- the file after a crash: any image `g` that keeps the bytes below the last durable end `E` —
    which every prefix of Flush's writes does, byte-granular truncation of the write in flight
    included, because all of them start at or beyond `E` (`crash_images_keep_prefix`) -/
theorem crash_atomic (f g : Bytes) (E : Nat) (roots : List (Bytes × Option Ploc))
    (hE : rootAt f E = some roots)                         -- the last completed Flush ended at E
    (hgE : E ≤ g.length) (hpre : g.take E = f.take E)      -- bytes below E survived
    (hjunk : ∀ e', E < e' → e' ≤ g.length → rootAt g e' = none)  -- junk above E is no complete root record
    (fid : Nat) (cmpOf : Bytes → CmpKind) :
    (∃ cs, loadColls g cmpOf roots = some cs ∧ openStore fid g cmpOf = .ok ⟨some fid, E, cs, false⟩) ∨
    (loadColls g cmpOf roots = none ∧ openStore fid g cmpOf = .corrupt) := by
  have h := openStore_crash_atomic f g E roots hE hgE hpre hjunk fid cmpOf
  cases hl : loadColls g cmpOf roots with
  | none => right; exact ⟨rfl, by rw [h, hl]⟩
  | some cs => left; exact ⟨cs, rfl, by rw [h, hl]⟩

/-- the scan itself: it opens exactly at `E`, with exactly the roots of the last completed Flush —
    never a mixture, never a partially written root -/
theorem scan_opens_at_last_flush (f g : Bytes) (E : Nat) (roots : List (Bytes × Option Ploc))
    (hE : rootAt f E = some roots) (hgE : E ≤ g.length) (hpre : g.take E = f.take E)
    (hjunk : ∀ e', E < e' → e' ≤ g.length → rootAt g e' = none) :
    scanRoots g false g.length = .found E roots :=
  scan_crash_atomic f g E roots hE hgE hpre hjunk false

/-- no Flush ever completed: the documented "no roots" error -/
theorem no_flush_completed (g : Bytes) (hne : g.length ≠ 0)
    (h : ∀ e', e' ≤ g.length → rootAt g e' = none) (fid : Nat) (cmpOf : Bytes → CmpKind) :
    openStore fid g cmpOf = .noRoots := openStore_no_roots g hne h fid cmpOf

/-- every crash image of a Flush (all its writes up to any point, the last one torn after any
    number of bytes, with or without an injected fault) keeps the bytes below the durable end:
    Flush only writes at or beyond `size` -/
theorem crash_images_keep_prefix (cs : List Coll) (s : FileSt) (hsz : s.size ≤ s.bytes.length) :
    (flushStore cs s).2.bytes.take s.size = s.bytes.take s.size := flushStore_prefix cs s hsz

/-- a single (possibly torn) write at or beyond E keeps the prefix -/
theorem torn_write_keeps_prefix (f b : Bytes) (off E c : Nat) (h : E ≤ off) (hf : off ≤ f.length) :
    (writeAt f off (b.take c)).take E = f.take E := take_writeAt f (b.take c) off E h (Nat.le_trans h hf)

/-- full strength: ANY surviving image that keeps the bytes of the last completed Flush and has no
    complete root record above it re-opens to EXACTLY the collections of that Flush (names,
    comparators, items, aggregates — for all collections together), whatever the names are -/
theorem crash_recovers_last_completed_flush (fid : Nat) (cmpOf : Bytes → CmpKind) (cs : List Coll) (s : FileSt)
    (hf : s.failed = false) (hp : s.failAt = none) (hsz : s.size = s.bytes.length)
    (hc : ∀ c ∈ cs, c.root.Coherent s.bytes s.size) (hok : ∀ c ∈ cs, c.root.SizesOK)
    (hnames : cs.Pairwise (fun a b => compare a.name b.name = .lt))
    (hcmp : ∀ c ∈ cs, cmpOf c.name = c.cmp)
    (hlim : (flushStore cs s).2.size < 2^32)
    (g : Bytes) (hge : (flushStore cs s).2.size ≤ g.length)
    (hpre : g.take (flushStore cs s).2.size = (flushStore cs s).2.bytes)
    (hjunk : ∀ e', (flushStore cs s).2.size < e' → e' ≤ g.length → rootAt g e' = none) :
    openStore fid g cmpOf = .ok ⟨some fid, (flushStore cs s).2.size, (flushStore cs s).1, false⟩ :=
  open_crash_image_full fid cmpOf cs s hf hp hsz hc hok hnames hcmp hlim g hge hpre hjunk

end Gkv.Props.C03
