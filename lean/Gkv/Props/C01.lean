/-
C01 — each collection behaves exactly like a sorted map.

`ops` ranges over ALL finite operation sequences; `cmp` over all comparators that are a total
preorder (`Std.TransCmp`; it need not be lawful: distinct keys may compare equal, as with the
case-folding comparator).
-/
import Gkv.Props.History
import Gkv.Proofs.FlushFrame
import Gkv.Proofs.WorldMachine
import Gkv.Proofs.Cache
open Std

namespace Gkv.Props.C01
open Gkv Gkv.Tree

variable (cmp : Bytes → Bytes → Ordering) [TransCmp cmp]

/-- the tree invariants hold after every history -/
theorem invariants (ops : List Mut) :
    BST cmp (ops.foldl (applyTree cmp) .nil) ∧ AggOK (ops.foldl (applyTree cmp) .nil) :=
  have h := foldl_applyTree_spec cmp ops (t := .nil) trivial trivial
  ⟨h.1, h.2.1⟩

/-- **refinement**: after any history of Set/Delete the collection holds exactly what the sorted
    map holds after the same history -/
theorem refines_sorted_map (ops : List Mut) :
    (ops.foldl (applyTree cmp) .nil).toList = ops.foldl (applySpec cmp) [] :=
  (foldl_applyTree_spec cmp ops (t := .nil) trivial trivial).2.2

/-- every read returns what the sorted map returns: lookup, Delete's result, Min, Max, totals -/
theorem reads_agree (ops : List Mut) (k : Bytes) :
    let t := ops.foldl (applyTree cmp) .nil
    let m := ops.foldl (applySpec cmp) []
    get cmp t k = Spec.lookup cmp m k ∧
    (delete cmp t k).2 = (Spec.lookup cmp m k).isSome ∧
    t.min = m.head? ∧ t.max = m.getLast? ∧ t.totals = Spec.totals m := by
  intro t m
  have hi := invariants cmp ops
  have hm : t.toList = m := refines_sorted_map cmp ops
  refine ⟨?_, ?_, ?_, ?_, ?_⟩
  · rw [← hm]; exact get_eq_lookup cmp hi.1 k
  · rw [← hm]; exact delete_wasDeleted cmp hi.1 k
  · rw [← hm]; exact min_eq_head t
  · rw [← hm]; exact max_eq_getLast t
  · rw [← hm]; exact totals_eq hi.2

/-- the sorted map stays strictly sorted (so "Min/Max are the extreme keys" is meaningful) -/
theorem map_sorted (ops : List Mut) : Spec.Sorted cmp (ops.foldl (applySpec cmp) []) := by
  rw [← refines_sorted_map cmp ops]
  exact toList_sorted cmp (invariants cmp ops).1

/-- argument validation: exactly the documented rejections -/
theorem validItem_iff (key : Bytes) (val : Option Bytes) (prio : Int) :
    validItem key val prio = true ↔
      key.length ≠ 0 ∧ key.length ≤ 65535 ∧ val.isSome = true ∧ 0 ≤ prio := by
  simp [validItem, and_assoc]

/-- Flush (failed or not) and therefore eviction/re-open placement cannot change what a collection
    holds: it only records file locations -/
theorem flush_invisible (cs : List Coll) (s : FileSt) :
    (flushStore cs s).1.map (fun c => (c.name, c.cmp, c.root.eraseLocs)) =
      cs.map (fun c => (c.name, c.cmp, c.root.eraseLocs)) := flushStore_eraseLocs cs s

/-! ### the theorem is about the function the tests run -/

/-- The executable history interpreter `World.stepTokens` (the very function `gkvdrive` folds over
    the operation lines of every correspondence run), started on a fresh file and fed the lines of
    ANY admissible history of collection operations, Set/Delete, Flush and re-open, shows exactly
    the sorted-map specification's contents (`Proofs/WorldMachine.lean` proves the interpreter
    simulates the machine of `Machine.refinement` step by step). -/
theorem driver_refines_sorted_maps (s f : Nat) (ops : List Gkv.Machine.SOp)
    (hok : Gkv.Machine.HistOK cmpOfName ops) (hvalid : ∀ op ∈ ops, Gkv.ValidOp op) :
    (Gkv.machineOf (ops.foldl (fun w op => (stepTokens w (Gkv.renderOp s f op)).1)
        (stepTokens { files := [], stores := [] } ["open", toString s, toString f]).1) s f).map
        Gkv.Machine.absS
      = some (Gkv.Machine.specRun cmpOfName ops).cur :=
  Gkv.world_refines_spec _ s f ops rfl rfl hok hvalid

/-! ### "interleaved arbitrarily with … EvictSomeItems": the cache is invisible (Model L) -/

open Gkv.Cache in
/-- Between two mutations a collection is one abstract tree `T` (Model A) seen through a cache
    (`Model/Cache.lean`: which nodes and items are in memory, with or without their values).  Any
    history of `GetItem`, `MinItem`, `MaxItem` (with or without values) and `EvictSomeItems` (with
    any random choices), from ANY cached view of `T`: every call succeeds, answers exactly what
    Model A's `get`/`min`/`max` answer on `T` (a value is shown whenever asked for, and never a
    wrong one), and leaves a view of the same `T`. -/
theorem cache_invisible (f : Bytes) (bound : Nat) (cmp : Bytes → Bytes → Ordering) (fuel : Nat)
    (T : Tree) (hc : T.Coherent f bound) (hf : T.height < fuel) (ops : List COp) (c : CTree)
    (hr : Rep c T) :
    ∃ outs c' rds, runC f cmp fuel ops c = some (outs, c', rds) ∧ Rep c' T ∧ AgreeAll cmp T outs ops := by
  obtain ⟨outs, c', rds, e, h1, h2, _⟩ := runC_spec f bound cmp fuel T hc hf ops c hr
  exact ⟨outs, c', rds, e, h1, h2⟩

open Gkv.Cache in
/-- the two views a store really starts from satisfy the hypothesis: after a mutation everything
    the mutator built is cached (`ofTree`); after `NewStore` nothing is (`cold`) -/
theorem views_exist (T : Tree) : Rep (ofTree T) T ∧ (T.Persisted → Rep (cold T) T) :=
  ⟨rep_ofTree T, rep_cold T⟩

open Gkv.Cache in
/-- The hypothesis of `cache_invisible` holds in every reachable state: after ANY admissible history
    of collection operations, Set/Delete, Flush and re-open (`Machine.invariant`), every collection's
    tree is coherent with the file as it is then, so lookups, Min/Max and evictions through any
    cached view of it — with the fuel the driver uses — answer as the abstract tree does. -/
theorem cache_invisible_reachable (cmpOf : Bytes → CmpKind) (hist : List Gkv.Machine.SOp)
    (hok : Gkv.Machine.HistOK cmpOf hist) (c : Coll) (hc : c ∈ (Gkv.Machine.srun cmpOf hist).colls)
    (ops : List COp) (view : CTree) (hr : Rep view c.root) :
    ∃ outs view' rds,
      runC (Gkv.Machine.srun cmpOf hist).file c.cmp.fn (c.root.size + 2) ops view = some (outs, view', rds) ∧
      Rep view' c.root ∧ AgreeAll c.cmp.fn c.root outs ops := by
  have inv := Gkv.Machine.invariant cmpOf hist hok
  have hf : c.root.height < c.root.size + 2 := by
    have := Tree.height_le_size c.root
    omega
  exact cache_invisible _ _ c.cmp.fn _ c.root (inv.coherent c hc) hf ops view hr

open Gkv.Cache in
/-- … and with range visits — to the end or stopped by the visitor at any item, either direction,
    with or without values, each evicting what it leaves — anywhere among the lookups and
    evictions: still every call answers as Model A does on the one abstract tree (`AgreeAll2`: a
    visit is handed Model A's sequence, or its first `stop` items), and the view stays a view. -/
theorem cache_invisible_with_visits (f : Bytes) (bound : Nat) (cmp : Bytes → Bytes → Ordering)
    (fuel : Nat) (T : Tree) (hc : T.Coherent f bound) (hf : T.height < fuel) (ops : List COp2)
    (c : CTree) (hr : Rep c T) :
    ∃ outs c' rds, runC2 f cmp fuel ops c = some (outs, c', rds) ∧ Rep c' T ∧ AgreeAll2 cmp T outs ops := by
  obtain ⟨outs, c', rds, e, h1, h2, -⟩ := runC2_spec f bound cmp fuel T hc hf ops c hr
  exact ⟨outs, c', rds, e, h1, h2⟩

-- non-vacuity: a concrete history with an overwrite and a delete
example : (([Mut.set ⟨[1], [10], 5⟩, .set ⟨[2], [20], 9⟩, .set ⟨[1], [11], 1⟩, .del [2]] : List Mut).foldl
    (applySpec cmpBytes) []) = [⟨[1], [11], 1⟩] := by decide

end Gkv.Props.C01
