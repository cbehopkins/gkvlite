/-
C12 — creating, replacing and removing collections never loses or leaks items.
Corollaries of the store-level refinement (`Gkv.Machine.refinement`): the specification's
collection operations are exactly the documented ones.
-/
import Gkv.Proofs.Machine
import Gkv.Model.Versions
import Gkv.Gen.Cas
import Gkv.Proofs.CasLoop

namespace Gkv.Props.C12
open Gkv Gkv.Machine

/-- along every history the store shows what the specification shows, where the specification says:
    SetCollection on a new name → empty collection; on an existing name → same items;
    RemoveCollection → the name is gone (so remove + create = empty); other names untouched -/
theorem collections_refine_spec (cmpOf : Bytes → CmpKind) (ops : List SOp) (h : HistOK cmpOf ops) :
    absS (srun cmpOf ops) = (specRun cmpOf ops).cur := refinement cmpOf ops h

/-- the specification's SetCollection keeps an existing collection's items and creates an empty one
    otherwise; RemoveCollection drops exactly that name -/
theorem spec_setColl (cmpOf : Bytes → CmpKind) (s : SpecState) (n : Bytes) :
    (specStep cmpOf s (.setColl n)).cur = specSet n ((specGet n s.cur).getD []) s.cur ∧
    (specStep cmpOf s (.rmColl n)).cur = s.cur.filter (fun p => p.1 ≠ n) ∧
    (specStep cmpOf s (.setColl n)).durable = s.durable ∧
    (specStep cmpOf s (.rmColl n)).durable = s.durable := ⟨rfl, rfl, rfl, rfl⟩

/-- GetCollectionNames is always the sorted set of current names -/
theorem names_sorted (cmpOf : Bytes → CmpKind) (ops : List SOp) (h : HistOK cmpOf ops) :
    ((srun cmpOf ops).colls.map (·.name)).Pairwise (fun a b => compare a b = .lt) :=
  Gkv.Machine.names_sorted cmpOf ops h

/-- collection changes become durable only at the next Flush: until then the file keeps decoding
    to the state at the last Flush -/
theorem durable_only_at_flush (cmpOf : Bytes → CmpKind) (ops : List SOp) (h : HistOK cmpOf ops) :
    ∃ dc, openStore 0 (srun cmpOf ops).file cmpOf
        = .ok ⟨some 0, (srun cmpOf ops).file.length, dc, false⟩ ∧
      absColls dc = (specRun cmpOf ops).durable :=
  durable_is_last_flush cmpOf ops h

/-- what makes handle replacement safe in the Go code (the replaced handle's version is shared by
    reference count, then released): the recycling protocol never frees a node of a live version -/
theorem replaced_handles_safe (F : Nat → Nat → Prop) (s : Gkv.Versions.St) (hr : Gkv.Versions.Reach F s) :
    ∀ w n, s.refs w > 0 → s.tree w n → ¬ s.freed n := Gkv.Versions.safe_reachable F s hr

#guard absS (srun (fun _ => .bytes)
    [.setColl [97], .set [97] ⟨[1], [2], 3⟩, .setColl [97], .setColl [98], .rmColl [97], .setColl [97]])
    == [([97], []), ([98], [])]


/-! ### the collection map is updated by compare-and-swap against what was read (regenerated table)

`Gen/Cas.lean` is rewritten from /repo's source on every run: one row per call `_.casColl(x, y)`.
The obligation: the sites are exactly the four reviewed ones, and at each the compared pointer `x`
is an identifier whose only definition is `x := _.getColl()`, placed before the call and inside
the same retry loop, and every `copyColl` of that function copies from `x` (never from a second
`getColl()`).  That is what makes each update "publish only if nobody published since I read".
It is a syntactic fact about the code, tied to C12's clause "none of these operations disturbs
other collections"; the concurrent reading of that clause (two goroutines updating the map) is
outside C12's quantifier (histories only), which is why this is an obligation and not a stream. -/
theorem cas_compares_what_was_read :
    Gen.Cas.sites.map (·.1) =
      ["Store.Close", "Store.FlushRevert", "Store.RemoveCollection", "Store.SetCollection"] ∧
    ∀ r ∈ Gen.Cas.sites, r.2 = (true, true, true, true, true) := ⟨by rfl, by decide⟩


/-! ### why comparing against what was read matters (supplementary: schedules are outside C12's quantifier)

`Model/CasLoop.lean`: any number of threads, each with a list of updates, each update done as
`read the cell; compute from the snapshot; compare-and-swap against the version that was read;
retry on failure` — the loop of SetCollection / RemoveCollection — under an arbitrary schedule. -/

/-- for every number of threads, all update lists and every schedule: the cell holds exactly the
    published updates applied in publication order to the initial value (nothing lost, nothing
    applied twice), and each thread's published updates followed by its pending ones are its
    program -/
theorem no_lost_collection_update {ι α : Type} (apply : ι → α → α) (a : α) (progs : List (List ι))
    (sched : List Nat) :
    (Gkv.CasLoop.run false apply (Gkv.CasLoop.init a progs) sched).cell.val =
      ((Gkv.CasLoop.run false apply (Gkv.CasLoop.init a progs) sched).log.map Prod.snd).foldl
        (fun a i => apply i a) a ∧
    ∀ t, ((Gkv.CasLoop.run false apply (Gkv.CasLoop.init a progs) sched).log.filter (fun e => e.1 == t)).map Prod.snd ++
        (Gkv.CasLoop.run false apply (Gkv.CasLoop.init a progs) sched).pendingOf t = progs[t]?.getD [] :=
  ⟨Gkv.CasLoop.no_lost_update apply a progs sched,
   fun t => Gkv.CasLoop.log_is_interleaving apply a progs sched t⟩

/-- comparing against whatever is current at swap time (seeded change C12b) loses an update: two
    threads, one update each, both read before either publishes -/
theorem cas_against_current_loses_update :
    let s := Gkv.CasLoop.run true Gkv.CasLoop.ins (Gkv.CasLoop.init [] Gkv.CasLoop.twoProgs) Gkv.CasLoop.raceSched
    s.log = [(0, 10), (1, 20)] ∧ s.cell.val = [20] :=
  ⟨Gkv.CasLoop.buggy_loses_update.1, Gkv.CasLoop.buggy_loses_update.2.2.1⟩

end Gkv.Props.C12
