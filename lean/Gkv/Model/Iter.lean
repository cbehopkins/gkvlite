/-
Model I — the iterator handshake of collection.go (`IterateAscend` / `IterateDescend`, `iterator.Next`,
`iterator.Close`, `Collection.iterate`), as an explicit small-step transition system of TWO
goroutines (the consumer that calls `Next` / `Close`, the producer goroutine started by
`IterateAscend`) that communicate over the two unbuffered channels `it.next` and `it.items`.

Go source being modelled:

    func (it *iterator) Next() bool {                       -- CONSUMER
      if it.closed { return false }                         --   idle      (test of it.closed)
      it.next <- true                                       --   nSend     (rendezvous)
      i, ok := <-it.items                                   --   nRecv     (rendezvous / closed-receive)
      if !ok || it.err != nil {
        close(it.next)                                      --   nClose
        it.closed = true; return false }                    --   nSetClosed
      it.result = i; return true                            --   nRet i
    }
    func (it *iterator) Close() {
      if it.closed { return }                               --   idle      (test of it.closed)
      close(it.next)                                        --   cClose
      it.closed = true }                                    --   cSetClosed
    func (t *Collection) iterate(it, v) {                   -- PRODUCER
      defer func() { close(it.items)                        --   pCloseItems
                     for range it.next {} }()               --   pDrain   ... then pExited
      if _, ok := <-it.next; !ok { return }                 --   pWaitFirst
      it.err = v(t, func(i *Item) bool {                    --   pPin  (rootAddRef at the start of the visit)
                                                            --   pVisit (visit loop head: next item, or done)
        it.items <- i                                       --   pSend
        _, ok := <-it.next                                  --   pWaitNext
        return ok })                                        --   (false: the visit stops)
                                                            --   pUnpin (deferred rootDecRef of the visit)
    }

Channel semantics: an unbuffered send/receive pair is ONE joint step of both goroutines
(`jointSteps`); a receive from a closed channel is a local step of the receiver that never blocks
and yields ok = false; `close` of a closed channel and a send on a closed channel panic (the model
sets `panicked` and then nothing is enabled any more).  Everything else (testing `it.closed`,
`close(it.next)`, assigning `it.closed`, the deferred `close(it.items)`, pinning and unpinning the
version) is a separate local step, so that every interleaving of the two goroutines is a path of
the relation `Step`.

Scope: the visit is error-free (`it.err` stays nil; in the Go code `it.err` is written only after
the visit returned, i.e. only when no item will be sent any more, so the test `it.err != nil` can
never change the outcome of a `Next` that received an item), and the items of the visit are the
list `items` fixed at `init` (the visit walks a pinned, immutable version).
-/
namespace Gkv.Iter

/-- a command of the consumer program: one call of `it.Next()` or of `it.Close()` -/
inductive Cmd where
  | next
  | close
deriving DecidableEq, Repr, Inhabited

/-- what the consumer observes: `Next` returned true (and `Result()` is the item), `Next` returned
false, `Close` returned -/
inductive Out where
  | nextTrue (item : Nat)
  | nextFalse
  | closed
deriving DecidableEq, Repr, Inhabited

/-- program counter of the consumer -/
inductive CPc where
  /-- between two commands (about to test `it.closed` of the next command) -/
  | idle
  /-- in `Next`: about to `it.next <- true` -/
  | nSend
  /-- in `Next`: about to `<-it.items` -/
  | nRecv
  /-- in `Next`: received item `i`, about to `it.result = i; return true` -/
  | nRet (i : Nat)
  /-- in `Next`: received `!ok`, about to `close(it.next)` -/
  | nClose
  /-- in `Next`: about to `it.closed = true; return false` -/
  | nSetClosed
  /-- in `Close`: about to `close(it.next)` -/
  | cClose
  /-- in `Close`: about to `it.closed = true; return` -/
  | cSetClosed
deriving DecidableEq, Repr, Inhabited

/-- program counter of the producer goroutine -/
inductive PPc where
  /-- `iterate`: blocked in the first `<-it.next` -/
  | pWaitFirst
  /-- got the first token; about to start the visit, which pins the version (`rootAddRef`) -/
  | pPin
  /-- head of the visit loop: call the callback on the next item, or finish -/
  | pVisit
  /-- in the callback: about to `it.items <- i` (i = head of `todo`) -/
  | pSend
  /-- in the callback: blocked in `<-it.next` -/
  | pWaitNext
  /-- the visit is over (exhausted or stopped): about to unpin (`rootDecRef`, deferred) -/
  | pUnpin
  /-- deferred function of `iterate`: about to `close(it.items)` -/
  | pCloseItems
  /-- deferred function of `iterate`: `for range it.next {}` -/
  | pDrain
  /-- the goroutine has returned -/
  | pExited
deriving DecidableEq, Repr, Inhabited

structure State where
  /-- consumer program counter -/
  cpc : CPc
  /-- commands the consumer has not started yet -/
  prog : List Cmd
  /-- producer program counter -/
  ppc : PPc
  /-- items the visit has not handed over yet -/
  todo : List Nat
  /-- `it.next` has been closed -/
  nextClosed : Bool
  /-- `it.items` has been closed -/
  itemsClosed : Bool
  /-- the field `it.closed` -/
  closedFlag : Bool
  /-- the visit holds its version pin -/
  pinned : Bool
  /-- some goroutine panicked (double close, send on a closed channel) -/
  panicked : Bool
  /-- observable results so far, oldest first -/
  outs : List Out
deriving DecidableEq, Repr, Inhabited

/-- local steps of the consumer goroutine -/
def consumerSteps (s : State) : List State :=
  match s.cpc with
  | .idle =>
    match s.prog with
    | [] => []
    | .next :: r =>
      -- `if it.closed { return false }`
      if s.closedFlag then [{ s with prog := r, outs := s.outs ++ [.nextFalse] }]
      else [{ s with prog := r, cpc := .nSend }]
    | .close :: r =>
      -- `if it.closed { return }`
      if s.closedFlag then [{ s with prog := r, outs := s.outs ++ [.closed] }]
      else [{ s with prog := r, cpc := .cClose }]
  | .nSend =>
    -- a send on a closed channel panics; on an open channel it needs a partner (`jointSteps`)
    if s.nextClosed then [{ s with panicked := true }] else []
  | .nRecv =>
    -- a receive from a closed channel does not block: ok = false
    if s.itemsClosed then [{ s with cpc := .nClose }] else []
  | .nRet i => [{ s with cpc := .idle, outs := s.outs ++ [.nextTrue i] }]
  | .nClose =>
    if s.nextClosed then [{ s with panicked := true }]
    else [{ s with nextClosed := true, cpc := .nSetClosed }]
  | .nSetClosed => [{ s with closedFlag := true, cpc := .idle, outs := s.outs ++ [.nextFalse] }]
  | .cClose =>
    if s.nextClosed then [{ s with panicked := true }]
    else [{ s with nextClosed := true, cpc := .cSetClosed }]
  | .cSetClosed => [{ s with closedFlag := true, cpc := .idle, outs := s.outs ++ [.closed] }]

/-- rendezvous steps: one goroutine sends, the other receives, both move -/
def jointSteps (s : State) : List State :=
  match s.cpc, s.ppc with
  | .nSend, .pWaitFirst =>
    if s.nextClosed then [] else [{ s with cpc := .nRecv, ppc := .pPin }]
  | .nSend, .pWaitNext =>
    -- the callback returns true: the visit goes on
    if s.nextClosed then [] else [{ s with cpc := .nRecv, ppc := .pVisit }]
  | .nSend, .pDrain =>
    -- `for range it.next {}` swallows a token
    if s.nextClosed then [] else [{ s with cpc := .nRecv }]
  | .nRecv, .pSend =>
    match s.todo with
    | i :: r =>
      if s.itemsClosed then [] else [{ s with cpc := .nRet i, ppc := .pWaitNext, todo := r }]
    | [] => []
  | _, _ => []

/-- local steps of the producer goroutine -/
def producerSteps (s : State) : List State :=
  match s.ppc with
  | .pWaitFirst =>
    -- `if _, ok := <-it.next; !ok { return }` on a closed channel: run the deferred function
    if s.nextClosed then [{ s with ppc := .pCloseItems }] else []
  | .pPin => [{ s with pinned := true, ppc := .pVisit }]
  | .pVisit =>
    match s.todo with
    | [] => [{ s with ppc := .pUnpin }]
    | _ :: _ => [{ s with ppc := .pSend }]
  | .pSend =>
    if s.itemsClosed then [{ s with panicked := true }] else []
  | .pWaitNext =>
    -- ok = false: the callback returns false, the visit stops
    if s.nextClosed then [{ s with ppc := .pUnpin }] else []
  | .pUnpin => [{ s with pinned := false, ppc := .pCloseItems }]
  | .pCloseItems =>
    if s.itemsClosed then [{ s with panicked := true }]
    else [{ s with itemsClosed := true, ppc := .pDrain }]
  | .pDrain =>
    -- the range loop ends when the channel is closed
    if s.nextClosed then [{ s with ppc := .pExited }] else []
  | .pExited => []

/-- all successor states: any enabled local step of either goroutine, or any enabled rendezvous -/
def enabled (s : State) : List State :=
  if s.panicked then [] else consumerSteps s ++ jointSteps s ++ producerSteps s

/-- one step of some goroutine (or one rendezvous of both) -/
def Step (s s' : State) : Prop := s' ∈ enabled s

instance (s s' : State) : Decidable (Step s s') := inferInstanceAs (Decidable (s' ∈ enabled s))

/-- `IterateAscend` has just returned: the producer goroutine exists and waits for the first token -/
def init (items : List Nat) (prog : List Cmd) : State :=
  { cpc := .idle, prog := prog, ppc := .pWaitFirst, todo := items,
    nextClosed := false, itemsClosed := false, closedFlag := false,
    pinned := false, panicked := false, outs := [] }

/-- the consumer program is finished and, if the iterator was closed or exhausted (`it.closed`),
the producer goroutine has exited -/
def final (s : State) : Prop :=
  s.cpc = .idle ∧ s.prog = [] ∧ (s.closedFlag = true → s.ppc = .pExited)

instance (s : State) : Decidable (final s) := by unfold final; exact inferInstance

/-- the producer is blocked waiting for a token (the only places where an abandoned iterator
leaves it) -/
def PPc.waiting : PPc → Bool
  | .pWaitFirst | .pWaitNext => true
  | _ => false

/-- the legitimate end states: the consumer is finished and the producer has exited, or — only if
the program never closed nor exhausted the iterator (an abandoned iterator) — is blocked waiting
for the next token -/
def Done (s : State) : Prop :=
  s.cpc = .idle ∧ s.prog = [] ∧
    (s.ppc = .pExited ∨ (s.closedFlag = false ∧ s.ppc.waiting = true))

instance (s : State) : Decidable (Done s) := by unfold Done; exact inferInstance

/-! ### termination measure -/

def CPc.weight : CPc → Nat
  | .idle => 0
  | .nSend => 5
  | .nRecv => 4
  | .nRet _ => 1
  | .nClose => 2
  | .nSetClosed => 1
  | .cClose => 2
  | .cSetClosed => 1

def PPc.weight : PPc → Nat
  | .pWaitFirst => 8
  | .pPin => 7
  | .pWaitNext => 7
  | .pVisit => 6
  | .pSend => 5
  | .pUnpin => 3
  | .pCloseItems => 2
  | .pDrain => 1
  | .pExited => 0

/-- every step decreases this number (`Gkv.Iter.terminates` in `Gkv.Proofs.Iter`) -/
def μ (s : State) : Nat :=
  (6 * s.prog.length + s.cpc.weight) + (3 * s.todo.length + s.ppc.weight) +
    (if s.panicked then 0 else 1)

/-! ### executable runner -/

/-- deterministic scheduler: always the first enabled step (consumer first, then rendezvous, then
producer) -/
def run : Nat → State → State
  | 0, s => s
  | fuel + 1, s =>
    match enabled s with
    | [] => s
    | s' :: _ => run fuel s'

/-- scheduler that always takes the LAST enabled step (producer first); for tests -/
def runLast : Nat → State → State
  | 0, s => s
  | fuel + 1, s =>
    match (enabled s).getLast? with
    | none => s
    | some s' => runLast fuel s'

/-- the observable results of running the consumer program `prog` on an iterator over `items` -/
def outputs (items : List Nat) (prog : List Cmd) : List Out :=
  (run (μ (init items prog)) (init items prog)).outs

/-- all states reachable in at most `fuel` steps that have no successor (for exhaustive tests of
small instances) -/
def explore : Nat → State → List State
  | 0, s => if enabled s = [] then [s] else []
  | fuel + 1, s =>
    match enabled s with
    | [] => [s]
    | ss => ss.flatMap (fun s' => explore fuel s')

/-! ### sequential specification of the observable results -/

/-- results of the commands issued after the iterator was closed or exhausted -/
def specClosed : List Cmd → List Out
  | [] => []
  | .next :: p => .nextFalse :: specClosed p
  | .close :: p => .closed :: specClosed p

/-- results of the program `prog` on an open iterator with `todo` still to deliver -/
def spec : List Nat → List Cmd → List Out
  | _, [] => []
  | _, .close :: p => .closed :: specClosed p
  | [], .next :: p => .nextFalse :: specClosed p
  | i :: t, .next :: p => .nextTrue i :: spec t p

/-- the items reported by the `nextTrue` outputs, in order -/
def reported : List Out → List Nat
  | [] => []
  | .nextTrue i :: o => i :: reported o
  | _ :: o => reported o

end Gkv.Iter
