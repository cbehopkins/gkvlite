/-
Model H — the abstract version / mark / reclaim protocol of collection.go + alloc.go, one lineage
(= one `rootLock`).  Versions are numbered 0..N in publication order; nodes are `Nat` ids.

State: `refs v` (rootNodeLoc.refs), ghost `hp v` (handles + reader pins holding version v),
`chained v` (v holds one reference on v+1: rootCAS's chain), `tree v n` (node n is
cached-reachable in version v), `mark n` (node.next = &version.reclaimMark), `freed n`.

Events (all under the lineage's rootLock in Go):
  acquire v   rootAddRef: Snapshot, reader pin, SetCollection on an existing name
  release v   rootDecRef: handle close, unpin, RemoveCollection, Store.Close, FlushRevert's drops
  load p x    a lazily loaded node becomes reachable inside a shared node
  mutate R Rn New T   SetItem/Delete: R = nodes of the current tree marked with the current mark
              (markReclaimable), Rn = nodes moved to the new mark (reclaimMarkUpdate), New = fresh
              nodes of the new tree, T = fresh temporaries; then rootCAS (publish + chain when the
              old version is pinned) and the mutator's two rootDecRef calls: the first cancels in
              `refs` against the mutator's own rootAddRef, and neither is an event here (`publish`
              keeps `refs N` and takes the handle out of `hp N`); the deferred one is the `dec` cascade
  dec         rootDecRefUnlocked: at zero release the chained successor first, then — for a version
              that was never superseded (`v = N`) — mark its whole cached tree (markAllUnlocked),
              then free nodes carrying its mark (`F v` = which of them reclaimNodesUnlocked reaches)

`safe_reachable`: in every reachable state no node of a live version is on the free list.
This is the repaired protocol (commit "fix: closing a collection handle freed tree nodes ...");
with the pinned tree's closeCollection (mark at handle close) the `mutate` case is not provable —
the concrete counterexample histories are `corpus/F1a` and `corpus/F1b` (finding F1 in DESIGN.md).
-/
namespace Gkv.Versions
open Classical


structure St where
  N : Nat
  refs : Nat → Nat
  hp : Nat → Nat            -- ghost: handles + pins holding version v
  chained : Nat → Bool      -- v holds one reference on v+1
  tree : Nat → Nat → Prop   -- tree v n : node n is (cached-)reachable in version v
  mark : Nat → Option Nat
  freed : Nat → Prop

def chainIn (s : St) (v : Nat) : Nat := if v > 0 ∧ s.chained (v-1) = true then 1 else 0

/-- The invariant of the protocol (`reach_inv`).  `safe` is the property (C10); the other clauses are what carries it
    through `reclaim`: a version dies only after every older one (`live_chained`, through `live_up`), and a node with
    `v`'s mark is in no tree newer than `v` (`mark_le`), so what `v` frees when it dies is in dead trees only
    (`reclaim_inv`). -/
structure HInv (s : St) : Prop where
  -- a reference count is the holders plus the chain reference of the version below
  acct  : ∀ v, s.refs v = s.hp v + chainIn s v
  -- nothing exists above the last version
  above : ∀ v, v > s.N → s.hp v = 0 ∧ s.chained v = false ∧ ∀ n, ¬ s.tree v n
  chN   : s.chained s.N = false
  -- a live superseded version holds its successor (rootCAS chains exactly when the old version stays in use): live
  -- versions are upward closed (`live_up`)
  live_chained : ∀ v, v < s.N → s.refs v > 0 → s.chained v = true
  -- a dead version holds no chain reference (`kill` gives it up before the successor is decremented)
  chained_live : ∀ v, s.chained v = true → s.refs v > 0
  -- a node gets `v`'s mark when it is replaced while `v` is current, when it is moved to that mark as `v` is made, or
  -- when `v` dies as the last version: each time it is in no tree newer than `v`
  mark_le : ∀ n v w, s.mark n = some v → s.tree w n → w ≤ v
  safe  : ∀ w n, s.refs w > 0 → s.tree w n → ¬ s.freed n
  -- no node of the live current tree is marked, so what a mutation takes over into tree `N+1` carries no older
  -- version's mark (`publish_pre`); conditional, because a dying last version marks its whole tree (`markAt`)
  cur_unmarked : s.refs s.N > 0 → ∀ n, s.tree s.N n → s.mark n = none

noncomputable def markAt (s : St) (v : Nat) (n : Nat) : Option Nat :=
  if v = s.N ∧ s.tree v n ∧ s.mark n = none then some v else s.mark n

noncomputable def reclaim (s : St) (v : Nat) (F : Nat → Prop) : St :=
  { s with mark := markAt s v, freed := fun n => s.freed n ∨ (F n ∧ markAt s v n = some v) }

def kill (s : St) (v : Nat) : St :=
  { s with refs := fun w => if w = v then 0 else s.refs w,
           chained := fun w => if w = v then false else s.chained w }

/-- The fuel only makes the recursion structural.  The cascade at `v` goes up one version per unit and only through
    chained versions, which lie below `N` (`chained_lt_N`), so `fuel + v > s.N` is enough (`dec_inv`): `release` starts
    at some `v ≤ N` with `N + 1`, `mutate` at the old `N` of a state whose last version is `N + 1` with `N + 2`. -/
noncomputable def dec (F : Nat → Nat → Prop) : Nat → St → Nat → St
  | 0, s, _ => s
  | fuel+1, s, v =>
    if s.refs v > 1 then { s with refs := fun w => if w = v then s.refs v - 1 else s.refs w }
    else
      let s2 := if s.chained v = true then dec F fuel (kill s v) (v+1) else kill s v
      reclaim s2 v (F v)

theorem St_ext : ∀ {a b : St}, a.N = b.N → a.refs = b.refs → a.hp = b.hp → a.chained = b.chained →
    a.tree = b.tree → a.mark = b.mark → a.freed = b.freed → a = b
  | ⟨_,_,_,_,_,_,_⟩, ⟨_,_,_,_,_,_,_⟩, rfl, rfl, rfl, rfl, rfl, rfl, rfl => rfl

theorem chainIn_succ (s : St) (u : Nat) : chainIn s (u+1) = if s.chained u = true then 1 else 0 := by
  simp [chainIn]

theorem chainIn_congr {s s' : St} {w : Nat} (h : ∀ u, u + 1 = w → s'.chained u = s.chained u) :
    chainIn s' w = chainIn s w := by
  cases w with
  | zero => rfl
  | succ u => rw [chainIn_succ, chainIn_succ, h u rfl]

theorem markAt_keep {s : St} {v n u : Nat} (h : s.mark n = some u) : markAt s v n = some u := by
  unfold markAt; simp [h]

theorem markAt_cases {s : St} {v n u : Nat} (h : markAt s v n = some u) :
    s.mark n = some u ∨ (s.mark n = none ∧ v = s.N ∧ s.tree v n ∧ u = v) := by
  unfold markAt at h
  split at h
  next hc => cases h; exact Or.inr ⟨hc.2.2, hc.1, hc.2.1, rfl⟩
  next => exact Or.inl h

theorem markAt_tree {s : St} {v n : Nat} (hv : v = s.N) (ht : s.tree v n) : markAt s v n ≠ none := by
  unfold markAt
  by_cases hm : s.mark n = none
  · rw [if_pos ⟨hv, ht, hm⟩]; exact nofun
  · rw [if_neg fun h => hm h.2.2]; exact hm

theorem markAt_ne (s : St) {v : Nat} (n : Nat) (hv : v ≠ s.N) : markAt s v n = s.mark n :=
  if_neg fun h => hv h.1

section killlemmas
variable (s : St) (v : Nat)
@[simp] theorem kill_N : (kill s v).N = s.N := rfl
@[simp] theorem kill_hp : (kill s v).hp = s.hp := rfl
@[simp] theorem kill_tree : (kill s v).tree = s.tree := rfl
@[simp] theorem kill_mark : (kill s v).mark = s.mark := rfl
@[simp] theorem kill_freed : (kill s v).freed = s.freed := rfl
theorem kill_refs (w : Nat) : (kill s v).refs w = if w = v then 0 else s.refs w := rfl
theorem kill_ch (w : Nat) : (kill s v).chained w = if w = v then false else s.chained w := rfl
theorem kill_chainIn (w : Nat) : chainIn (kill s v) w = if w = v + 1 then 0 else chainIn s w := by
  split
  next e => rw [e, chainIn_succ, kill_ch, if_pos rfl]; rfl
  next e => exact chainIn_congr fun u hu => by rw [kill_ch, if_neg (by omega)]
end killlemmas

theorem kill_ch_false {s : St} {w : Nat} (v : Nat) (h : s.chained w = false) :
    (kill s v).chained w = false := by
  rw [kill_ch]; split
  · rfl
  · exact h

/-- the first branch of `dec`: one reference less on `v` -/
def decr (s : St) (v : Nat) : St := { s with refs := fun w => if w = v then s.refs v - 1 else s.refs w }

section
variable (F : Nat → Nat → Prop) (fuel : Nat) (s : St) (v : Nat)

theorem dec_gt (h : s.refs v > 1) : dec F (fuel+1) s v = decr s v := by rw [dec, if_pos h]; rfl

theorem dec_le (h : ¬ s.refs v > 1) : dec F (fuel+1) s v =
    reclaim (if s.chained v = true then dec F fuel (kill s v) (v+1) else kill s v) v (F v) := by
  rw [dec, if_neg h]

end

theorem dec_frame (F : Nat → Nat → Prop) (fuel s v) :
    (dec F fuel s v).N = s.N ∧ (dec F fuel s v).tree = s.tree ∧ (dec F fuel s v).hp = s.hp ∧
    (∀ u, u < v → (dec F fuel s v).refs u = s.refs u) := by
  -- the cases of `dec`: no fuel; `refs v > 1`; the last reference, where `s2` is the state handed to `reclaim`
  fun_induction dec F fuel s v with
  | case1 => exact ⟨rfl, rfl, rfl, fun _ _ => rfl⟩
  | case2 _ s v => exact ⟨rfl, rfl, rfl, fun u hu => if_neg (Nat.ne_of_lt hu)⟩
  | case3 _ s v _ s2 ih =>
    have hk : ∀ u, u < v → (kill s v).refs u = s.refs u := fun u hu => if_neg (Nat.ne_of_lt hu)
    show s2.N = _ ∧ s2.tree = _ ∧ s2.hp = _ ∧ ∀ u, u < v → s2.refs u = _
    unfold s2; split
    · exact ⟨ih.1, ih.2.1, ih.2.2.1, fun u hu => (ih.2.2.2 u (by omega)).trans (hk u hu)⟩
    · exact ⟨rfl, rfl, rfl, hk⟩

section
variable (F : Nat → Nat → Prop) (fuel : Nat) (s : St) (v : Nat)
@[simp] theorem dec_N : (dec F fuel s v).N = s.N := (dec_frame F fuel s v).1
@[simp] theorem dec_tree : (dec F fuel s v).tree = s.tree := (dec_frame F fuel s v).2.1
@[simp] theorem dec_hp : (dec F fuel s v).hp = s.hp := (dec_frame F fuel s v).2.2.1
theorem dec_refs_lt {u : Nat} (hu : u < v) : (dec F fuel s v).refs u = s.refs u :=
  (dec_frame F fuel s v).2.2.2 u hu
end

/-- What the cascade does to the marks, whatever it frees: nothing, or — when it kills the last
    version — `markAllUnlocked` on that version's tree. -/
theorem dec_mark (F : Nat → Nat → Prop) (fuel : Nat) (s : St) (v : Nat) :
    (dec F fuel s v).mark = s.mark ∨ (v ≤ s.N ∧ (dec F fuel s v).mark = markAt s s.N) := by
  fun_induction dec F fuel s v with
  | case1 | case2 => exact Or.inl rfl
  | case3 fuel s v _ s2 ih =>
    have e : s2.N = s.N ∧ s2.tree = s.tree ∧ (s2.mark = s.mark ∨ (v + 1 ≤ s.N ∧ s2.mark = markAt s s.N)) := by
      unfold s2; split
      · exact ⟨dec_N .., dec_tree .., ih⟩
      · exact ⟨rfl, rfl, Or.inl rfl⟩
    show markAt s2 v = _ ∨ _ ∧ markAt s2 v = _
    by_cases hv : v = s.N
    · rcases e.2.2 with hm | ⟨hle, _⟩
      · exact Or.inr ⟨Nat.le_of_eq hv, by unfold markAt; rw [e.1, e.2.1, hm, hv]⟩
      · omega
    · rw [show markAt s2 v = s2.mark from funext fun n => markAt_ne s2 n (e.1 ▸ hv)]
      exact e.2.2.imp_right fun h => ⟨by omega, h.2⟩

theorem dec_mark_keep (F : Nat → Nat → Prop) (fuel : Nat) (s : St) (v : Nat) {n u : Nat}
    (h : s.mark n = some u) : (dec F fuel s v).mark n = some u := by
  rcases dec_mark F fuel s v with e | ⟨_, e⟩
  · rw [e]; exact h
  · rw [e]; exact markAt_keep h

theorem mark_none_of_dec (F : Nat → Nat → Prop) (fuel : Nat) (s : St) (v : Nat) {n : Nat}
    (h : (dec F fuel s v).mark n = none) : s.mark n = none :=
  Option.eq_none_iff_forall_ne_some.2 fun u hu => by rw [dec_mark_keep F fuel s v hu] at h; cases h

theorem dec_mark_new (F : Nat → Nat → Prop) (fuel : Nat) (s : St) (v : Nat) {n u : Nat}
    (h : (dec F fuel s v).mark n = some u) :
    s.mark n = some u ∨ (s.mark n = none ∧ u = s.N ∧ v ≤ u ∧ s.tree s.N n) := by
  rcases dec_mark F fuel s v with e | ⟨hle, e⟩
  · rw [e] at h; exact Or.inl h
  · rw [e] at h
    exact (markAt_cases h).imp_right fun ⟨h1, _, h3, h4⟩ => ⟨h1, h4, h4 ▸ hle, h3⟩

theorem dec_freed_mono (F : Nat → Nat → Prop) (fuel : Nat) (s : St) (v : Nat) {n : Nat} :
    s.freed n → (dec F fuel s v).freed n := by
  fun_induction dec F fuel s v with
  | case1 | case2 => exact id
  | case3 _ s v _ s2 ih =>
    refine fun h => Or.inl (?_ : s2.freed n)
    unfold s2; split
    · exact ih h
    · exact h

theorem tree_le_N {s : St} (h : HInv s) {w n : Nat} (ht : s.tree w n) : w ≤ s.N :=
  Nat.le_of_not_gt fun hw => (h.above w hw).2.2 n ht

theorem hp_le_N {s : St} (h : HInv s) (v : Nat) (hv : s.hp v > 0) : v ≤ s.N :=
  Nat.le_of_not_gt fun hw => by have := (h.above v hw).1; omega

/-- stated on the two clauses it needs, which `HInv` and `InvX` share -/
theorem chained_lt_N {s : St} (above : ∀ w, w > s.N → s.hp w = 0 ∧ s.chained w = false ∧ ∀ n, ¬ s.tree w n)
    (chN : s.chained s.N = false) {w : Nat} (hc : s.chained w = true) : w < s.N := by
  apply Classical.byContradiction; intro hw
  have : s.chained w = false := by
    by_cases e : w = s.N
    · rw [e]; exact chN
    · exact (above w (by omega)).2.1
  rw [this] at hc; cases hc

/-- A live version keeps everything above it alive through the chain (`live_chained`, then `acct`). -/
theorem live_up {s : St} (h : HInv s) (d u : Nat) (hu : s.refs u > 0) (hle : u + d ≤ s.N) :
    s.refs (u+d) > 0 := by
  induction d with
  | zero => exact hu
  | succ d ih =>
    have := h.acct (u+d+1)
    rw [chainIn_succ, if_pos (h.live_chained (u+d) (by omega) (ih (by omega)))] at this
    show s.refs (u+d+1) > 0; omega

theorem reclaim_inv {s : St} {v : Nat} (h : HInv s) (hv : v ≤ s.N) (h0 : s.refs v = 0) (F : Nat → Prop) :
    HInv (reclaim s v F) := by
  have hmk : ∀ n u w, markAt s v n = some u → s.tree w n → w ≤ u := fun n u w hm ht => by
    rcases markAt_cases hm with hm | ⟨_, hvN, _, hu⟩
    · exact h.mark_le n u w hm ht
    · rw [hu, hvN]; exact tree_le_N h ht
  refine ⟨h.acct, h.above, h.chN, h.live_chained, h.chained_live, hmk, fun w n hr ht hf => ?_,
    fun hr n ht => ?_⟩
  · rcases hf with hf | ⟨_, hm⟩
    · exact h.safe w n hr ht hf
    · -- a node freed now carries `v`'s mark, so it is in trees up to `v` only, and those died before `v`
      have hw := hmk n v w hm ht
      have := live_up h (v - w) w hr (by omega)
      rw [Nat.add_sub_cancel' hw, h0] at this; cases this
  · show markAt s v n = none
    rw [markAt_ne s n fun e => Nat.ne_of_gt hr (e ▸ h0)]
    exact h.cur_unmarked hr n ht

/-- `HInv` for a state in which `v` carries one more reference, which is about to be dropped: that
    reference counts neither in the accounting nor for the liveness of `v`. -/
structure InvX (s : St) (v : Nat) : Prop where
  acct  : ∀ w, s.refs w = s.hp w + chainIn s w + (if w = v then 1 else 0)
  vle   : v ≤ s.N
  above : ∀ w, w > s.N → s.hp w = 0 ∧ s.chained w = false ∧ ∀ n, ¬ s.tree w n
  chN   : s.chained s.N = false
  live_chained : ∀ w, w < s.N → s.refs w > (if w = v then 1 else 0) → s.chained w = true
  chained_live : ∀ w, s.chained w = true → s.refs w > 0
  mark_le : ∀ n u w, s.mark n = some u → s.tree w n → w ≤ u
  safe  : ∀ w n, s.refs w > (if w = v then 1 else 0) → s.tree w n → ¬ s.freed n
  cur_unmarked : s.refs s.N > (if s.N = v then 1 else 0) → ∀ n, s.tree s.N n → s.mark n = none

theorem decr_live {s : St} {v w : Nat} :
    (decr s v).refs w > 0 ↔ s.refs w > (if w = v then 1 else 0) := by
  show (if w = v then s.refs v - 1 else s.refs w) > 0 ↔ _
  split
  next e => subst e; omega
  next => exact Iff.rfl

/-- dropping the extra reference when that leaves `v` alive, or dead and unchained -/
theorem InvX.decr {s : St} {v : Nat} (hx : InvX s v) (hc : s.chained v = true → s.refs v > 1) :
    HInv (decr s v) := by
  refine ⟨fun w => ?_, hx.above, hx.chN, fun w hw hr => hx.live_chained w hw (decr_live.1 hr),
    fun w hw => decr_live.2 ?_, hx.mark_le, fun w n hr => hx.safe w n (decr_live.1 hr),
    fun hr => hx.cur_unmarked (decr_live.1 hr)⟩
  · have := hx.acct w
    show (if w = v then s.refs v - 1 else s.refs w) = s.hp w + chainIn s w
    split
    next e => subst e; rw [if_pos rfl] at this; omega
    next e => rw [if_neg e] at this; exact this
  · split
    next e => subst e; exact hc hw
    next => exact hx.chained_live w hw

theorem kill_live {s : St} {v w : Nat} (hr : (kill s v).refs w > (if w = v + 1 then 1 else 0)) :
    w ≠ v ∧ s.refs w > (if w = v then 1 else 0) := by
  rw [kill_refs] at hr
  by_cases e : w = v
  · rw [if_pos e] at hr; omega
  · rw [if_neg e] at hr ⊢; exact ⟨e, by omega⟩

/-- the last reference on a chained `v` is dropped: `v`'s reference on `v+1` is the next to go -/
theorem InvX.kill {s : St} {v : Nat} (hx : InvX s v) (h1 : s.refs v = 1) (hc : s.chained v = true) :
    InvX (kill s v) (v+1) := by
  refine ⟨fun w => ?_, chained_lt_N hx.above hx.chN hc,
    fun w hw => ⟨(hx.above w hw).1, kill_ch_false v (hx.above w hw).2.1, (hx.above w hw).2.2⟩,
    kill_ch_false v hx.chN, fun w hw hr => ?_, fun w hw => ?_, hx.mark_le,
    fun w n hr => hx.safe w n (kill_live hr).2, fun hr => hx.cur_unmarked (kill_live hr).2⟩
  · have := hx.acct w
    rw [kill_chainIn, kill_refs]; show _ = s.hp w + _ + _
    by_cases e : w = v
    · subst e; rw [if_pos rfl] at this ⊢; rw [if_neg (by omega), if_neg (by omega)]; omega
    · rw [if_neg e] at this ⊢
      by_cases e1 : w = v + 1
      · subst e1; rw [chainIn_succ, if_pos hc] at this; rw [if_pos rfl, if_pos rfl]; omega
      · rw [if_neg e1, if_neg e1]; exact this
  · have := kill_live hr
    rw [kill_ch, if_neg this.1]; exact hx.live_chained w hw this.2
  · rw [kill_ch] at hw
    by_cases e : w = v
    · rw [if_pos e] at hw; cases hw
    · rw [if_neg e] at hw; rw [kill_refs, if_neg e]; exact hx.chained_live w hw

theorem kill_eq_decr {s : St} {v : Nat} (h1 : s.refs v = 1) (hc : ¬ s.chained v = true) :
    kill s v = decr s v := by
  have : (fun w => if w = v then false else s.chained w) = s.chained := by
    funext w; split
    next e => rw [e, Bool.eq_false_iff.2 hc]
    next => rfl
  unfold kill decr; rw [this, h1]

theorem dec_inv (F : Nat → Nat → Prop) (fuel s v) : fuel + v > s.N → InvX s v → HInv (dec F fuel s v) := by
  fun_induction dec F fuel s v with
  | case1 s v => intro h hx; have := hx.vle; omega
  | case2 _ s v hgt => exact fun _ hx => hx.decr fun _ => hgt
  | case3 fuel s v hgt s2 ih =>
    intro hf hx
    have hr1 : s.refs v = 1 := by have := hx.acct v; rw [if_pos rfl] at this; omega
    suffices HInv s2 ∧ s2.N = s.N ∧ s2.refs v = 0 from reclaim_inv this.1 (this.2.1 ▸ hx.vle) this.2.2 _
    unfold s2; split
    next hc =>
      exact ⟨ih (by rw [kill_N]; omega) (hx.kill hr1 hc), dec_N ..,
        (dec_refs_lt F fuel (kill s v) (v+1) (Nat.lt_succ_self v)).trans (if_pos rfl)⟩
    next hc => exact ⟨kill_eq_decr hr1 hc ▸ hx.decr fun h => absurd h hc, rfl, if_pos rfl⟩

def dropHolder (s : St) (v : Nat) : St := { s with hp := fun w => if w = v then s.hp v - 1 else s.hp w }

/-- releasing a handle or a pin on v: ghost decrement puts us in the InvX precondition of dec -/
theorem release_pre {s : St} (h : HInv s) (v : Nat) (hv : s.hp v > 0) : InvX (dropHolder s v) v := by
  have live : ∀ {w}, s.refs w > (if w = v then 1 else 0) → s.refs w > 0 := fun hr => by omega
  refine ⟨fun w => ?_, hp_le_N h v hv, fun w hw => ?_, h.chN, fun w hw hr => h.live_chained w hw (live hr),
    h.chained_live, h.mark_le, fun w n hr => h.safe w n (live hr), fun hr => h.cur_unmarked (live hr)⟩
  · have := h.acct w
    show s.refs w = (if w = v then s.hp v - 1 else s.hp w) + chainIn s w + _
    split
    next e => subst e; omega
    next => exact this
  · -- `v` lies below: nothing changes above `N`
    have hvw : w ≠ v := Nat.ne_of_gt (Nat.lt_of_le_of_lt (hp_le_N h v hv) hw)
    exact ⟨(if_neg hvw).trans (h.above w hw).1, (h.above w hw).2⟩

noncomputable def release (F : Nat → Nat → Prop) (s : St) (v : Nat) : St :=
  dec F (s.N + 1) (dropHolder s v) v

section
variable (F : Nat → Nat → Prop) (s : St) (v : Nat)
@[simp] theorem release_N : (release F s v).N = s.N := dec_N ..
@[simp] theorem release_tree : (release F s v).tree = s.tree := dec_tree ..
theorem release_hp (w : Nat) : (release F s v).hp w = if w = v then s.hp v - 1 else s.hp w :=
  congrFun (dec_hp ..) w

theorem release_gt (h : s.refs v > 1) : release F s v = decr (dropHolder s v) v :=
  dec_gt F _ (dropHolder s v) v h
end

theorem release_inv (F : Nat → Nat → Prop) {s : St} (h : HInv s) (v : Nat) (hv : s.hp v > 0) :
    HInv (release F s v) :=
  dec_inv F _ _ _ (by show s.N + 1 + v > s.N; omega) (release_pre h v hv)

/-- acquire: snapshot / SetCollection-existing / reader pin on a version that somebody already holds -/
def acquire (s : St) (v : Nat) : St :=
  { s with hp := fun w => if w = v then s.hp v + 1 else s.hp w,
           refs := fun w => if w = v then s.refs v + 1 else s.refs w }

theorem acquire_inv {s : St} (h : HInv s) (v : Nat) (hv : s.hp v > 0) : HInv (acquire s v) := by
  have hrv : s.refs v > 0 := by have := h.acct v; omega
  have live : ∀ {w}, (acquire s v).refs w > 0 ↔ s.refs w > 0 := fun {w} => by
    show (if w = v then s.refs v + 1 else s.refs w) > 0 ↔ _
    split
    next e => subst e; omega
    next => exact Iff.rfl
  refine ⟨fun w => ?_, fun w hw => ?_, h.chN, fun w hw hr => h.live_chained w hw (live.1 hr),
    fun w hc => live.2 (h.chained_live w hc), h.mark_le, fun w n hr => h.safe w n (live.1 hr),
    fun hr => h.cur_unmarked (live.1 hr)⟩
  · have := h.acct w
    show (if w = v then s.refs v + 1 else s.refs w) = (if w = v then s.hp v + 1 else s.hp w) + chainIn s w
    split
    next e => subst e; omega
    next => exact this
  · -- `v` lies below: nothing changes above `N`
    have hvw : w ≠ v := Nat.ne_of_gt (Nat.lt_of_le_of_lt (hp_le_N h v hv) hw)
    exact ⟨(if_neg hvw).trans (h.above w hw).1, (h.above w hw).2⟩

theorem release_acquire (F : Nat → Nat → Prop) (s : St) (v : Nat) (h : s.refs v > 0) :
    release F (acquire s v) v = s := by
  rw [release_gt F (acquire s v) v (show (if v = v then s.refs v + 1 else s.refs v) > 1 by rw [if_pos rfl]; omega)]
  refine St_ext rfl (funext fun w => ?_) (funext fun w => ?_) rfl rfl rfl rfl
  · show (if w = v then (if v = v then s.refs v + 1 else s.refs v) - 1 else if w = v then s.refs v + 1 else s.refs w) = _
    split
    next e => rw [if_pos rfl, e]; rfl
    next => rfl
  · show (if w = v then (if v = v then s.hp v + 1 else s.hp v) - 1 else if w = v then s.hp v + 1 else s.hp w) = _
    split
    next e => rw [if_pos rfl, e]; rfl
    next => rfl

/-- lazy load: a fresh node x appears below p in every version that contains p -/
def load (s : St) (p x : Nat) : St :=
  { s with tree := fun w n => s.tree w n ∨ (n = x ∧ s.tree w p) }

theorem load_inv {s : St} (h : HInv s) (p x : Nat)
    (fresh_mark : s.mark x = none) (fresh_free : ¬ s.freed x) : HInv (load s p x) := by
  refine ⟨h.acct, fun w hw => ?_, h.chN, h.live_chained, h.chained_live, fun n v w hm ht => ?_,
    fun w n hr ht => ?_, fun hr n ht => ?_⟩
  · have := h.above w hw
    refine ⟨this.1, this.2.1, ?_⟩
    rintro n (hn | ⟨_, hp⟩)
    · exact this.2.2 n hn
    · exact this.2.2 p hp
  · rcases ht with ht | ⟨e, _⟩
    · exact h.mark_le n v w hm ht
    · subst e; change s.mark n = some v at hm; rw [fresh_mark] at hm; cases hm
  · rcases ht with ht | ⟨e, _⟩
    · exact h.safe w n hr ht
    · subst e; exact fresh_free
  · rcases ht with ht | ⟨e, _⟩
    · exact h.cur_unmarked hr n ht
    · subst e; exact fresh_mark


/-- The state after SetItem/Delete has rebuilt the tree, published N+1 by rootCAS (chaining N when it is
    still in use), dropped the mutating handle's reference on N, and is about to drop the pin on N.
    `s` is the state before the mutator's rootAddRef, and the pin is never a holder in `hp`: `refs N` is
    kept (the handle's reference gone, the pin's counted) and the handle leaves `hp N`, so the pin is the
    one reference `InvX` has beyond the accounting; the chain test `hp N + chainIn s N ≥ 2` is the code's
    `prev.refs > 2`, which counts the pin (`VersionsFine.commitSt_eq`).
    R  : nodes of tree N replaced and marked with N's mark
    Rn : nodes of tree N replaced and (Delete) moved to the new version's mark
    New: fresh nodes of the new tree;  T: fresh temporaries (marked with the new version's mark). -/
noncomputable def publish (s : St) (R Rn New T : Nat → Prop) : St :=
  let N := s.N
  let ch : Bool := decide (s.hp N + chainIn s N ≥ 2)
  { N := N + 1
    refs := fun w => if w = N + 1 then 1 + (if ch then 1 else 0) else if w = N then s.refs N else s.refs w
    hp := fun w => if w = N + 1 then 1 else if w = N then s.hp N - 1 else s.hp w
    chained := fun w => if w = N then ch else s.chained w
    tree := fun w n => if w = N + 1 then (s.tree N n ∧ ¬ R n ∧ ¬ Rn n) ∨ New n else s.tree w n
    mark := fun n => if R n then some N else if Rn n ∨ T n then some (N+1) else s.mark n
    freed := s.freed }

structure MutPre (s : St) (R Rn New T : Nat → Prop) : Prop where
  holder : s.hp s.N > 0
  R_sub  : ∀ n, R n → s.tree s.N n
  Rn_sub : ∀ n, Rn n → s.tree s.N n
  New_fresh : ∀ n, New n → (∀ w, ¬ s.tree w n) ∧ s.mark n = none ∧ ¬ s.freed n ∧ ¬ R n ∧ ¬ Rn n ∧ ¬ T n
  T_fresh   : ∀ n, T n → (∀ w, ¬ s.tree w n)

section publish
variable (s : St) (R Rn New T : Nat → Prop)

@[simp] theorem publish_N : (publish s R Rn New T).N = s.N + 1 := rfl

theorem publish_refs (w : Nat) : (publish s R Rn New T).refs w =
    if w = s.N + 1 then 1 + (if s.hp s.N + chainIn s s.N ≥ 2 then 1 else 0) else s.refs w := by
  show (if w = s.N + 1 then _ else if w = s.N then s.refs s.N else s.refs w) = _
  split
  · simp
  · split
    next e => rw [e]
    next => rfl

theorem publish_hp (w : Nat) : (publish s R Rn New T).hp w =
    if w = s.N + 1 then 1 else if w = s.N then s.hp s.N - 1 else s.hp w := rfl

theorem publish_chained (w : Nat) : (publish s R Rn New T).chained w =
    if w = s.N then decide (s.hp s.N + chainIn s s.N ≥ 2) else s.chained w := rfl

theorem publish_mark (n : Nat) : (publish s R Rn New T).mark n =
    if R n then some s.N else if Rn n ∨ T n then some (s.N+1) else s.mark n := rfl

theorem publish_chainIn (w : Nat) : chainIn (publish s R Rn New T) w =
    if w = s.N + 1 then (if s.hp s.N + chainIn s s.N ≥ 2 then 1 else 0) else chainIn s w := by
  split
  next e => subst e; rw [chainIn_succ, publish_chained, if_pos rfl]; simp
  next e => exact chainIn_congr fun u hu => by rw [publish_chained, if_neg (by omega)]

variable {s} {R Rn New T}

theorem publish_tree_new {n : Nat} :
    (publish s R Rn New T).tree (s.N + 1) n ↔ (s.tree s.N n ∧ ¬ R n ∧ ¬ Rn n) ∨ New n := by
  show (if s.N + 1 = s.N + 1 then _ else _) ↔ _; rw [if_pos rfl]

theorem publish_tree_old {w : Nat} (hw : w ≠ s.N + 1) {n : Nat} :
    (publish s R Rn New T).tree w n ↔ s.tree w n := by
  show (if w = s.N + 1 then _ else _) ↔ _; rw [if_neg hw]

theorem publish_mark_none {n : Nat} :
    (publish s R Rn New T).mark n = none ↔ ¬ R n ∧ ¬ (Rn n ∨ T n) ∧ s.mark n = none := by
  rw [publish_mark]
  split
  next h => exact ⟨nofun, fun h' => absurd h h'.1⟩
  next h =>
    split
    next h' => exact ⟨nofun, fun h'' => absurd h' h''.2.1⟩
    next h' => exact ⟨fun e => ⟨h, h', e⟩, fun e => e.2.2⟩

theorem publish_mark_cases {n u : Nat} (h : (publish s R Rn New T).mark n = some u) :
    u = s.N ∨ u = s.N + 1 ∨ s.mark n = some u := by
  rw [publish_mark] at h
  split at h
  · cases h; exact Or.inl rfl
  · split at h
    · cases h; exact Or.inr (Or.inl rfl)
    · exact Or.inr (Or.inr h)

end publish

theorem publish_pre {s : St} (h : HInv s) {R Rn New T : Nat → Prop} (m : MutPre s R Rn New T) :
    InvX (publish s R Rn New T) s.N := by
  have hacc := h.acct s.N
  have hrN : s.refs s.N > 0 := by have := m.holder; omega
  -- a node of the new tree is an untouched node of the current tree or a new one; either way it
  -- was unmarked, gets no mark, and is not freed
  have newtree : ∀ n, (publish s R Rn New T).tree (s.N + 1) n →
      (publish s R Rn New T).mark n = none ∧ ¬ s.freed n := fun n ht => by
    rw [publish_mark_none]
    rcases publish_tree_new.1 ht with ⟨ht, hR, hRn⟩ | hn
    · exact ⟨⟨hR, fun hh => hh.elim hRn fun hT => m.T_fresh n hT _ ht, h.cur_unmarked hrN n ht⟩, h.safe _ n hrN ht⟩
    · have f := m.New_fresh n hn
      exact ⟨⟨f.2.2.2.1, fun hh => hh.elim f.2.2.2.2.1 f.2.2.2.2.2, f.2.1⟩, f.2.2.1⟩
  refine ⟨fun w => ?_, Nat.le_succ _, fun w hw => ?_, ?_, fun w hw hr => ?_, fun w hc => ?_,
    fun n u w hm ht => ?_, fun w n hr ht => ?_, fun _ n ht => (newtree n ht).1⟩
  · rw [publish_refs, publish_hp, publish_chainIn]
    by_cases e : w = s.N + 1
    · subst e; rw [if_pos rfl, if_pos rfl, if_pos rfl, if_neg (Nat.succ_ne_self _)]; rfl
    · -- below `N + 1` the accounting is that of `release N`: the handle has left `hp N`, its reference is still counted
      rw [if_neg e, if_neg e, if_neg e]; exact (release_pre h s.N m.holder).acct w
  · have hw : w > s.N + 1 := hw
    have ha := h.above w (Nat.lt_of_succ_lt hw)
    have e : w ≠ s.N := by omega
    refine ⟨?_, ?_, fun n => ?_⟩
    · rw [publish_hp, if_neg (Nat.ne_of_gt hw), if_neg e]; exact ha.1
    · rw [publish_chained, if_neg e]; exact ha.2.1
    · rw [publish_tree_old (Nat.ne_of_gt hw)]; exact ha.2.2 n
  · show (publish s R Rn New T).chained (s.N + 1) = false
    rw [publish_chained, if_neg (Nat.succ_ne_self _)]; exact (h.above _ (Nat.lt_succ_self _)).2.1
  · have hw : w < s.N + 1 := hw
    rw [publish_refs, if_neg (Nat.ne_of_lt hw)] at hr
    rw [publish_chained]
    by_cases e : w = s.N
    · subst e; rw [if_pos rfl] at hr ⊢; exact decide_eq_true (hacc ▸ hr)
    · rw [if_neg e] at hr ⊢; exact h.live_chained w (by omega) hr
  · rw [publish_chained] at hc; rw [publish_refs]
    split
    · exact Nat.le_add_right 1 _
    · by_cases e : w = s.N
      · exact e ▸ hrN
      · rw [if_neg e] at hc; exact h.chained_live w hc
  · by_cases e : w = s.N + 1
    · subst e; rw [(newtree n ht).1] at hm; cases hm
    · -- the marks laid are `N` and `N + 1`, and the old trees are those up to `N`
      have ht := (publish_tree_old e).1 ht
      have := tree_le_N h ht
      rcases publish_mark_cases hm with e | e | hm
      · omega
      · omega
      · exact h.mark_le n u w hm ht
  · by_cases e : w = s.N + 1
    · subst e; exact (newtree n ht).2
    · rw [publish_refs, if_neg e] at hr
      exact h.safe w n (Nat.zero_lt_of_lt hr) ((publish_tree_old e).1 ht)


noncomputable def mutate (F : Nat → Nat → Prop) (s : St) (R Rn New T : Nat → Prop) : St :=
  dec F (s.N + 2) (publish s R Rn New T) s.N

theorem mutate_inv (F : Nat → Nat → Prop) {s : St} (h : HInv s) {R Rn New T : Nat → Prop}
    (m : MutPre s R Rn New T) : HInv (mutate F s R Rn New T) :=
  dec_inv F _ _ _ (by show s.N + 2 + s.N > s.N + 1; omega) (publish_pre h m)

/-- reachable states of the protocol -/
inductive Reach (F : Nat → Nat → Prop) : St → Prop
  | init (hp0 : Nat) : Reach F
      { N := 0, refs := fun w => if w = 0 then 1 else 0, hp := fun w => if w = 0 then 1 else 0,
        chained := fun _ => false, tree := fun _ _ => False, mark := fun _ => none, freed := fun _ => False }
  | acquire {s v} : Reach F s → s.hp v > 0 → Reach F (acquire s v)
  | release {s v} : Reach F s → s.hp v > 0 → Reach F (release F s v)
  | load {s p x} : Reach F s → s.mark x = none → ¬ s.freed x → Reach F (load s p x)
  | mutate {s R Rn New T} : Reach F s → MutPre s R Rn New T → Reach F (mutate F s R Rn New T)

theorem reach_inv (F : Nat → Nat → Prop) : ∀ s, Reach F s → HInv s := by
  intro s hr
  induction hr with
  | init _ =>
    refine ⟨?_, ?_, rfl, ?_, ?_, ?_, ?_, ?_⟩
    · intro v; simp [chainIn]
    · intro v hv; have : v ≠ 0 := by simp at hv; omega
      simp [this]
    · intro v hv; simp at hv
    · intro v hc; simp at hc
    · intro n v w hm; simp at hm
    · intro w n _ ht; simp at ht
    · intro _ n ht; simp at ht
  | acquire _ hv ih => exact acquire_inv ih _ hv
  | release _ hv ih => exact release_inv F ih _ hv
  | load _ hm hf ih => exact load_inv ih _ _ hm hf
  | mutate _ m ih => exact mutate_inv F ih m

/-- Safety: in every reachable state no node of a live version has been freed. -/
theorem safe_reachable (F : Nat → Nat → Prop) (s : St) (hr : Reach F s) :
    ∀ w n, s.refs w > 0 → s.tree w n → ¬ s.freed n := (reach_inv F s hr).safe


end Gkv.Versions
