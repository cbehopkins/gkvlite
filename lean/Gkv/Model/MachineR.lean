/-
The store-level state machine of `Machine.lean` extended with FlushRevert (property C08 at full
strength: histories with any number of flushes, re-opens and consecutive reverts, including
reverting past the first flush).  Kept as a separate file so that the model of `Machine` stays
as it is (`Proofs/Machine.lean` derives its theorems from this machine); `rstep` agrees with
`Machine.sstep` on the operations they share.

Specification: the durable side is now a STACK of flushed states (most recent first);
Flush pushes, FlushRevert pops and makes the new top (or the empty store) current, re-open
shows the top (or the empty store).
-/
import Gkv.Model.Machine
open Std

namespace Gkv.MachineR
open Gkv Gkv.Machine

inductive ROp
  | base (op : SOp)    -- setColl / rmColl / set / del / flush / reopen, as in `Machine`
  | revert             -- Store.FlushRevert on the writable store
deriving Repr

/-- `Store.FlushRevert` of Model B on the machine state (the store is writable, `fid = 0`) -/
def rstep (cmpOf : Bytes → CmpKind) (s : SState) : ROp → SState
  | .base op => sstep cmpOf s op
  | .revert =>
    match revertStore ⟨some 0, s.size, s.colls, false⟩ 0 s.file cmpOf with
    | some (st, f') => { colls := st.colls, file := f', size := st.size }
    | none => s

def rrun (cmpOf : Bytes → CmpKind) (ops : List ROp) : SState := ops.foldl (rstep cmpOf) sinit

structure RSpec where
  cur : SpecStore
  flushed : List SpecStore     -- states of the completed, not reverted, flushes; most recent first

def rspecInit : RSpec := ⟨[], []⟩

def rspecStep (cmpOf : Bytes → CmpKind) (s : RSpec) : ROp → RSpec
  | .base .flush => { cur := s.cur, flushed := s.cur :: s.flushed }
  | .base .reopen => { s with cur := s.flushed.headD [] }
  | .base op =>
    -- the in-memory operations act on `cur` exactly as in `Machine.specStep`
    { s with cur := (specStep cmpOf ⟨s.cur, []⟩ op).cur }
  | .revert => { cur := (s.flushed.drop 1).headD [], flushed := s.flushed.drop 1 }

def rspecRun (cmpOf : Bytes → CmpKind) (ops : List ROp) : RSpec := ops.foldl (rspecStep cmpOf) rspecInit

/-- the ends of the root records of the flushes on the stack, most recent first: what
    FlushRevert truncates to -/
def NoForgedRoots (file : Bytes) (ends : List Nat) : Prop :=
  ∀ e, (rootAt file e).isSome → e ∈ ends

end Gkv.MachineR
