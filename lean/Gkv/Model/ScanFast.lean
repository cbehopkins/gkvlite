/-
  A fast executable form of the backward scan `scanRoots` (Gkv/Model/Store.lean), with a kernel-checked
  equality registered as `@[csimp]`.  The specification `scanRoots` is untouched.

  `scanRoots f dflt sz` calls `rootAt f e` at every position `e = sz, sz-1, …`; `rootAt` starts with
  `readAt f (e - 24) 24 = (f.drop (e-24)).take 24`, which walks `e - 24` cells of the list, so k rejected
  positions cost O(k · |f|).  `scanRootsFast` walks a reversed copy of `f.take sz` in step with the
  position: the 12 bytes ending at `e` are then the first 12 cells of the reversed list, and a position
  whose last 12 bytes are not `magicEnd ++ magicEnd` is rejected in O(1) (`List.isPrefixOf` stops at the
  first differing byte; no allocation).  Only at positions that do carry the doubled end marker is
  `rootAt` consulted, exactly as `scanRoots` does.
-/
import Gkv.Model.Store
import Gkv.Proofs.Bytes

namespace Gkv

/-- `(magicEnd ++ magicEnd).reverse`, as a literal (checked by `endRev_eq`) -/
def endRev : Bytes := [112, 53, 97, 52, 101, 51, 112, 53, 97, 52, 101, 51]

theorem endRev_eq : endRev = (magicEnd ++ magicEnd).reverse := by decide

/-- the descent of `scanRootsFast`: `rev` is `(f.take sz).reverse` -/
def scanRootsFast.go (f : Bytes) (dflt : Bool) : Nat → Bytes → ScanRes
  | 0, _ => if dflt then .empty else .noRoots
  | sz+1, rev =>
    if sz + 1 ≤ rootsLen then (if dflt then .empty else .noRoots)
    else if endRev.isPrefixOf rev then
      match rootAt f (sz+1) with
      | some roots => .found (sz+1) roots
      | none => go f dflt sz rev.tail
    else go f dflt sz rev.tail

/-- same result as `scanRoots`, but walks a reversed copy of the prefix so that rejecting a position whose
    last 12 bytes are not the doubled end marker costs O(1) -/
def scanRootsFast (f : Bytes) (dflt : Bool) (sz : Nat) : ScanRes :=
  if sz ≤ f.length then scanRootsFast.go f dflt sz (f.take sz).reverse
  else scanRoots f dflt sz

/-- a position where the reversed prefix does not start with the reversed doubled end marker is not
    the end of a root record: `rootAt` wants the marker in the last 12 of the 24 bytes it reads first -/
theorem rootAt_none_of_not_endRev (f : Bytes) (e : Nat) (he : e ≤ f.length) (hr : rootsLen < e)
    (hp : ¬ endRev.isPrefixOf (f.take e).reverse = true) : rootAt f e = none := by
  have hr' : 44 < e := hr
  rw [rootAt_eq, if_neg (Nat.not_le_of_lt hr), readAt, if_pos (by unfold rootsEndLen; omega),
    Option.bind_some]
  refine if_pos (Classical.not_and_iff_not_or_not.mp fun ⟨h1, h2⟩ => hp ?_)
  -- the last 12 of the 24 bytes are the last 12 bytes below `e`, the first 12 of the reversed prefix
  have hX : ((f.drop (e - rootsEndLen)).take rootsEndLen).drop 12 = (f.drop (e - 12)).take 12 := by
    unfold rootsEndLen
    rw [List.drop_take, List.drop_drop, show e - 24 + 12 = e - 12 by omega]
  have h12 : (f.drop (e - 12)).take 12 = magicEnd ++ magicEnd := by
    rw [← List.take_append_drop 6 ((f.drop (e - 12)).take 12), ← hX, h1, List.drop_drop, h2]
  have hsplit : f.take e = f.take (e - 12) ++ (f.drop (e - 12)).take 12 := by
    rw [← List.take_add, Nat.sub_add_cancel (by omega)]
  rw [List.isPrefixOf_iff_prefix, hsplit, List.reverse_append, h12, ← endRev_eq]
  exact List.prefix_append _ _

theorem tail_reverse_take (f : Bytes) (sz : Nat) (h : sz + 1 ≤ f.length) :
    ((f.take (sz + 1)).reverse).tail = (f.take sz).reverse := by
  rw [List.take_succ_eq_append_getElem (by omega : sz < f.length)]
  simp only [List.reverse_append, List.reverse_singleton, List.singleton_append, List.tail_cons]

theorem scanRootsFast_go_eq (f : Bytes) (dflt : Bool) :
    ∀ sz, sz ≤ f.length → scanRootsFast.go f dflt sz (f.take sz).reverse = scanRoots f dflt sz
  | 0, _ => by simp [scanRootsFast.go, scanRoots]
  | sz+1, h => by
    have ih := scanRootsFast_go_eq f dflt sz (by omega)
    unfold scanRootsFast.go scanRoots
    by_cases hr : sz + 1 ≤ rootsLen
    · simp only [hr, if_true]
    · simp only [hr, if_false]
      rw [tail_reverse_take f sz h, ih]
      have hr' : rootsLen < sz + 1 := by omega
      by_cases hp : endRev.isPrefixOf (f.take (sz + 1)).reverse = true
      · simp only [hp, if_true]
        rfl
      · simp only [hp]
        rw [rootAt_none_of_not_endRev f (sz + 1) h hr' hp]
        simp

theorem scanRootsFast_eq (f : Bytes) (dflt : Bool) (sz : Nat) :
    scanRootsFast f dflt sz = scanRoots f dflt sz := by
  unfold scanRootsFast
  split
  · next h => exact scanRootsFast_go_eq f dflt sz h
  · rfl

@[csimp] theorem scanRoots_eq_fast : @scanRoots = @scanRootsFast := by
  funext f dflt sz
  exact (scanRootsFast_eq f dflt sz).symm

/-! ### the callers compiled where the attribute is not visible

`@[csimp]` rewrites `scanRoots` only in code compiled where the attribute is visible.  `openStore` and
`revertStore` live in `Gkv/Model/Store.lean` next to `scanRoots`, so their compiled bodies keep calling the
slow scan whatever is imported later (measured: see the end of this file).  These are the same two
definitions with `scanRootsFast` in place of `scanRoots`, again with kernel-checked equalities registered
as `@[csimp]`, so that modules importing this one (`World`, `Driver`, …) call the fast versions. -/

/-- `openStore` with the fast scan -/
def openStoreFast (fid : Nat) (f : Bytes) (cmpOf : Bytes → CmpKind) : OpenRes :=
  if f.length = 0 then .ok ⟨some fid, 0, [], false⟩
  else match scanRootsFast f false f.length with
    | .found e roots =>
      match loadColls f cmpOf roots with
      | some cs => .ok ⟨some fid, e, cs, false⟩
      | none => .corrupt
    | .empty => .ok ⟨some fid, 0, [], false⟩
    | .noRoots => .noRoots

@[csimp] theorem openStore_eq_fast : @openStore = @openStoreFast := by
  funext fid f cmpOf
  unfold openStore openStoreFast
  rw [scanRootsFast_eq]
  rfl

/-- `revertStore` with the fast scan -/
def revertStoreFast (st : Store) (fid : Nat) (f : Bytes) (cmpOf : Bytes → CmpKind) :
    Option (Store × Bytes) :=
  let cur := match scanRootsFast f true st.size with
    | .found e _ => e
    | _ => 0
  let sz := if cur > rootsLen then cur - 1 else cur
  match scanRootsFast f true sz with
  | .found e roots =>
    match loadColls f cmpOf roots with
    | some cs =>
      some ({ st with size := e, colls := cs, file := some fid },
            if st.readOnly then f else f.take e)
    | none => none
  | _ => some ({ st with size := 0, colls := [], file := some fid }, if st.readOnly then f else [])

@[csimp] theorem revertStore_eq_fast : @revertStore = @revertStoreFast := by
  funext st fid f cmpOf
  unfold revertStore revertStoreFast
  simp only [scanRootsFast_eq]
  rfl

end Gkv

#print axioms Gkv.scanRoots_eq_fast
#print axioms Gkv.openStore_eq_fast
#print axioms Gkv.revertStore_eq_fast

/-
  Measurements (40,000 zero bytes, no root record; interpreter via `#eval`):
    importing only Gkv.Model.Store :  scanRoots 3409 ms   openStore 3697 ms   revertStore 3615 ms
    importing Gkv.Model.ScanFast   :  scanRoots   20 ms   openStore   18 ms   revertStore   12 ms
  With only `scanRoots_eq_fast` (no `openStore_eq_fast`), `openStore` stayed at 4148 ms under the import:
  its body is compiled in Store.lean, where the attribute is not visible.
  Native `gkvdrive`, `decodehex` of the same file: 5.70 s when World.lean does not import this module,
  0.07 s when it does (World.c/Driver.c then reference only the `…Fast` symbols).
-/
