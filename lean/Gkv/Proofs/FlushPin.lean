/-
Proofs about Model P (`Model/FlushPin.lean`): for every schedule of mutator steps and pinning
steps the repaired pinning walk never touches a closed handle, what it pins are versions that
were current during the walk and are taken in name order, and it completes as soon as the
mutator leaves the collection map alone.
-/
import Gkv.Model.FlushPin

namespace Gkv.FlushPin

/-- what holds in every reachable state of the repaired protocol -/
structure Inv (s : St) : Prop where
  -- the store's map holds open handles only (what a fresh copy of the map relies on: `fresh_walk_completes`)
  cur_open : ∀ i, i < s.n → s.cur i ∉ s.closed
  -- `inj`, `fresh`, `closed_lt` are there for `swap` to keep `cur_open`: the handle it closes is no other
  -- collection's, and the handle `next` it installs is neither closed nor in the map
  inj      : ∀ i j, i < s.n → j < s.n → s.cur i = s.cur j → i = j
  fresh    : ∀ i, i < s.n → s.cur i < s.next
  closed_lt : ∀ h, h ∈ s.closed → h < s.next
  -- one ghost snapshot per pin
  len_eq   : s.snaps.length = s.pinned.length
  len_le   : s.pinned.length ≤ s.n
  -- starting over drops every pin
  no_copy  : s.copy = none → s.pinned = []
  -- versions only grow: no snapshot is newer than the present
  snap_le  : ∀ k (h : k < s.snaps.length), ∀ c, (s.snaps[k]) c ≤ s.ver c
  -- what is pinned for collection `k` is the version `k` had at the moment of its pin
  pin_snap : ∀ k (h : k < s.snaps.length) (h' : k < s.pinned.length), s.pinned[k] = (s.snaps[k]) k
  -- the property (F21): no closed handle was dereferenced
  ok       : s.panicked = false
  -- a later pin sees no collection in an older state; with `pin_snap` this is the name order of C05
  snap_mono : ∀ a b (ha : a < s.snaps.length) (hb : b < s.snaps.length), a ≤ b → ∀ c, (s.snaps[a]) c ≤ (s.snaps[b]) c

theorem init_inv (n : Nat) (v : Nat → Nat) : Inv (init n v) where
  cur_open _ _ := List.not_mem_nil
  inj _ _ _ _ e := e
  fresh _ hi := hi
  closed_lt _ hh := nomatch hh
  len_eq := rfl
  len_le := Nat.zero_le _
  no_copy _ := rfl
  snap_le _ hk := nomatch hk
  pin_snap _ hk := nomatch hk
  ok := rfl
  snap_mono _ _ ha := nomatch ha

theorem Inv.swap {s : St} (h : Inv s) {i : Nat} (hi : i < s.n) :
    Inv { s with closed := s.cur i :: s.closed
                 cur := fun j => if j = i then s.next else s.cur j
                 next := s.next + 1 } :=
  -- `next` is above every handle of the map and every closed one, so it is neither
  have hnext j (hj : j < s.n) : s.cur j ≠ s.next := Nat.ne_of_lt (h.fresh j hj)
  { h with
    cur_open := fun j hj => by
      dsimp only
      split
      · exact List.not_mem_cons_of_ne_of_not_mem (hnext i hi).symm
          fun hm => Nat.lt_irrefl _ (h.closed_lt _ hm)
      next hne =>
        exact List.not_mem_cons_of_ne_of_not_mem (fun e => hne (h.inj j i hj hi e)) (h.cur_open j hj)
    inj := fun j k hj hk e => by
      dsimp only at e
      split at e <;> split at e
      next ej ek => exact ej.trans ek.symm
      · exact absurd e.symm (hnext k hk)
      · exact absurd e (hnext j hj)
      · exact h.inj j k hj hk e
    fresh := fun j hj => by
      dsimp only
      split
      · exact Nat.lt_succ_self _
      · exact Nat.lt_succ_of_lt (h.fresh j hj)
    closed_lt := List.forall_mem_cons.2
      ⟨Nat.lt_succ_of_lt (h.fresh i hi), fun x hx => Nat.lt_succ_of_lt (h.closed_lt x hx)⟩ }

theorem Inv.grow {s : St} (h : Inv s) {ver : Nat → Nat} (hv : ∀ c, s.ver c ≤ ver c) :
    Inv { s with ver := ver } :=
  { h with snap_le := fun k hk c => Nat.le_trans (h.snap_le k hk c) (hv c) }

theorem done_false_of_lt {s : St} (h : s.pinned.length < s.n) : s.done = false := by
  unfold St.done
  rw [beq_false_of_ne (Nat.ne_of_lt h), Bool.and_false]

theorem done_of_eq {s : St} {m : Nat → Nat} (hc : s.copy = some m) (hl : s.pinned.length = s.n) :
    s.done = true := by
  rw [St.done, hc, hl, beq_self_eq_true]; rfl

theorem lt_of_done_false {s : St} (h : Inv s) {m : Nat → Nat} (hc : s.copy = some m)
    (hd : s.done = false) : s.pinned.length < s.n := by
  refine Nat.lt_of_le_of_ne h.len_le fun e => ?_
  rw [St.done, hc, e, beq_self_eq_true] at hd
  cases hd

theorem pinStep_idle {safe : Bool} {s : St} (h : (s.panicked || s.done) = true) :
    pinStep safe s = s := if_pos h

/-- the map has not been read: read it -/
theorem pinStep_read {safe : Bool} {s : St} (hp : s.panicked = false) (hc : s.copy = none) :
    pinStep safe s = { s with copy := some s.cur, pinned := [], snaps := [] } := by
  unfold pinStep
  rw [hp, St.done, hc]
  rfl

/-- the next handle of the copy has been closed: the repaired walk starts over -/
theorem pinStep_closed {s : St} {m : Nat → Nat} (hp : s.panicked = false) (hc : s.copy = some m)
    (hd : s.done = false) (hcl : m s.pinned.length ∈ s.closed) :
    pinStep true s =
      { s with copy := none, pinned := [], snaps := [], restarts := s.restarts + 1 } := by
  unfold pinStep
  rw [hp, hd, if_neg (by decide), hc]
  exact (if_pos hcl).trans (if_pos rfl)

/-- the next handle of the copy is open: pin it -/
theorem pinStep_open {safe : Bool} {s : St} {m : Nat → Nat} (hp : s.panicked = false)
    (hc : s.copy = some m) (hd : s.done = false) (ho : m s.pinned.length ∉ s.closed) :
    pinStep safe s =
      { s with pinned := s.pinned ++ [s.ver s.pinned.length], snaps := s.snaps ++ [s.ver] } := by
  unfold pinStep
  rw [hp, hd, if_neg (by decide), hc]
  exact if_neg ho

/-- dropping every pin keeps the invariant, whatever becomes of the copy -/
theorem Inv.restart {s : St} (h : Inv s) (cp : Option (Nat → Nat)) (r : Nat) :
    Inv { s with copy := cp, pinned := [], snaps := [], restarts := r } :=
  { h with
    len_eq := rfl
    len_le := Nat.zero_le _
    no_copy := fun _ => rfl
    snap_le := nofun
    pin_snap := nofun
    snap_mono := nofun }

theorem getElem_snoc {α : Type} {l : List α} {x : α} {k : Nat} (h : k < (l ++ [x]).length) :
    (∃ h' : k < l.length, (l ++ [x])[k] = l[k]) ∨ (k = l.length ∧ (l ++ [x])[k] = x) := by
  by_cases h' : k < l.length
  · exact .inl ⟨h', List.getElem_append_left h'⟩
  · have e : k = l.length := by rw [List.length_append, List.length_singleton] at h; omega
    exact .inr ⟨e, List.getElem_concat_length e h⟩

/-- one more pin: the present versions are the newest snapshot -/
theorem Inv.pin {s : St} (h : Inv s) {m : Nat → Nat} (hc : s.copy = some m)
    (hlt : s.pinned.length < s.n) :
    Inv { s with pinned := s.pinned ++ [s.ver s.pinned.length], snaps := s.snaps ++ [s.ver] } :=
  { h with
    len_eq := by simp only [List.length_append, List.length_singleton, h.len_eq]
    len_le := by rw [List.length_append]; exact hlt
    no_copy := fun e => by rw [hc] at e; cases e
    snap_le := fun k hk c => by
      rcases getElem_snoc hk with ⟨hk', e⟩ | ⟨_, e⟩ <;> rw [e]
      · exact h.snap_le k hk' c
      · exact Nat.le_refl _
    pin_snap := fun k hk hk' => by
      rcases getElem_snoc hk with ⟨hk₁, e⟩ | ⟨rfl, e⟩ <;> rw [e]
      · rw [List.getElem_append_left (h.len_eq ▸ hk₁)]; exact h.pin_snap k hk₁ _
      · rw [List.getElem_concat_length h.len_eq, h.len_eq]
    snap_mono := fun a b ha hb hab c => by
      rcases getElem_snoc hb with ⟨hb', e⟩ | ⟨_, e⟩ <;> rw [e]
      · have ha' := Nat.lt_of_le_of_lt hab hb'
        rw [List.getElem_append_left ha']; exact h.snap_mono a b ha' hb' hab c
      · -- below the snapshot just taken: an old one by `snap_le`, the new one by reflexivity
        rcases getElem_snoc ha with ⟨ha', e⟩ | ⟨_, e⟩ <;> rw [e]
        · exact h.snap_le a ha' c
        · exact Nat.le_refl _ }

theorem pin_inv {s : St} (h : Inv s) : Inv (pinStep true s) := by
  by_cases hpd : (s.panicked || s.done) = true
  · rw [pinStep_idle hpd]; exact h
  · have hd : s.done = false := by
      rw [h.ok, Bool.false_or] at hpd; exact Bool.eq_false_iff.2 hpd
    cases hc : s.copy with
    | none => rw [pinStep_read h.ok hc]; exact h.restart _ _
    | some m =>
      by_cases hcl : m s.pinned.length ∈ s.closed
      · rw [pinStep_closed h.ok hc hd hcl]; exact h.restart _ _
      · rw [pinStep_open h.ok hc hd hcl]; exact h.pin hc (lt_of_done_false h hc hd)

theorem step_inv {s : St} (h : Inv s) (e : Ev) : Inv (step true s e) := by
  cases e with
  | swap i =>
    show Inv (if i < s.n then _ else s)
    split
    next hi => exact h.swap hi
    · exact h
  | mutate i =>
    show Inv (if i < s.n then _ else s)
    split
    · refine h.grow fun c => ?_
      split
      next e => rw [e]; exact Nat.le_succ _
      · exact Nat.le_refl _
    · exact h
  | pin => exact pin_inv h

theorem run_inv {s : St} (h : Inv s) (es : List Ev) : Inv (run true s es) :=
  List.foldlRecOn es (step true) h fun _ ht e _ => step_inv ht e

/-! Progress: once the mutator leaves the map alone the walk completes. -/

/-- `k` steps of the pinning goroutine and nothing else -/
def quiet (k : Nat) : List Ev := List.replicate k Ev.pin

theorem run_quiet_succ (s : St) (k : Nat) :
    run true s (quiet (k + 1)) = run true (pinStep true s) (quiet k) := rfl

theorem run_quiet_add (s : St) (a b : Nat) :
    run true s (quiet (a + b)) = run true (run true s (quiet a)) (quiet b) := by
  unfold run quiet
  rw [← List.replicate_append_replicate, List.foldl_append]

theorem done_stable_run (s : St) (h : s.done = true) (k : Nat) : run true s (quiet k) = s := by
  induction k with
  | zero => rfl
  | succ k ih => rw [run_quiet_succ, pinStep_idle (by rw [h, Bool.or_true]), ih]

/-- with an up-to-date copy (every handle in it is open) the walk finishes in exactly
    as many steps as collections are left -/
theorem walk_completes : ∀ (d : Nat) (s : St) (m : Nat → Nat), s.panicked = false → s.copy = some m →
    s.pinned.length + d = s.n → (∀ j, j < s.n → m j ∉ s.closed) →
    (run true s (quiet d)).done = true
  | 0, s, m, _, hc, hl, _ => done_of_eq hc hl
  | d + 1, s, m, hp, hc, hl, ho => by
    have hlt : s.pinned.length < s.n := by omega
    rw [run_quiet_succ, pinStep_open hp hc (done_false_of_lt hlt) (ho _ hlt)]
    exact walk_completes d _ m hp hc (by simp; omega) ho

/-- from a state in which the map has not been read (yet, or again): one step to read it, then one
    per collection -/
theorem fresh_walk_completes (s : St) (h : Inv s) (hc : s.copy = none) :
    (run true s (quiet (s.n + 1))).done = true := by
  rw [run_quiet_succ, pinStep_read h.ok hc]
  exact walk_completes s.n _ s.cur h.ok rfl (Nat.zero_add _) h.cur_open

theorem pinStep_n (s : St) : (pinStep true s).n = s.n := by
  unfold pinStep
  split
  · rfl
  · split
    · rfl
    · dsimp only
      split <;> rfl

theorem step_n (s : St) (e : Ev) : (step true s e).n = s.n := by
  cases e with
  | swap i => show (if i < s.n then _ else s).n = s.n; split <;> rfl
  | mutate i => show (if i < s.n then _ else s).n = s.n; split <;> rfl
  | pin => exact pinStep_n s

theorem run_n (s : St) (es : List Ev) : (run true s es).n = s.n :=
  List.foldlRecOn (motive := (·.n = s.n)) es (step true) rfl fun t ht e _ => (step_n t e).trans ht

/-- with a possibly stale copy: within one step per remaining collection (plus one) the walk is
    either complete or has thrown its pins away and is about to read the map again -/
theorem settles : ∀ (d : Nat) (s : St) (m : Nat → Nat), Inv s → s.copy = some m →
    s.pinned.length + d = s.n →
    ∃ k, k ≤ d + 1 ∧ ((run true s (quiet k)).done = true ∨
      ((run true s (quiet k)).copy = none ∧ Inv (run true s (quiet k)) ∧ (run true s (quiet k)).n = s.n)) := by
  intro d
  induction d with
  | zero =>
    intro s m _ hc hl
    exact ⟨0, Nat.zero_le _, Or.inl (done_of_eq hc hl)⟩
  | succ d ih =>
    intro s m h hc hl
    have hlt : s.pinned.length < s.n := by omega
    have hd := done_false_of_lt hlt
    by_cases ho : m s.pinned.length ∈ s.closed
    · refine ⟨1, by omega, Or.inr ?_⟩
      rw [show run true s (quiet 1) = pinStep true s from rfl, pinStep_closed h.ok hc hd ho]
      exact ⟨rfl, h.restart _ _, rfl⟩
    · obtain ⟨k, hk, hres⟩ := ih _ m (h.pin hc hlt) hc (by simp; omega)
      refine ⟨k + 1, by omega, ?_⟩
      rw [run_quiet_succ, pinStep_open h.ok hc hd ho]
      exact hres

theorem completes_when_quiet (s : St) (h : Inv s) :
    ∃ k, k ≤ 2 * s.n + 2 ∧ (run true s (quiet k)).done = true := by
  cases hc : s.copy with
  | none => exact ⟨s.n + 1, by omega, fresh_walk_completes s h hc⟩
  | some m =>
    have hle := h.len_le
    obtain ⟨k1, hk1, hres⟩ := settles (s.n - s.pinned.length) s m h hc (by omega)
    rcases hres with hdone | ⟨hnone, hinv, hn⟩
    · exact ⟨k1, by omega, hdone⟩
    · refine ⟨k1 + (s.n + 1), by omega, ?_⟩
      rw [run_quiet_add]
      have := fresh_walk_completes _ hinv hnone
      rw [hn] at this
      exact this

theorem quiet_period_completes (s : St) (h : Inv s) (k : Nat) (hk : 2 * s.n + 2 ≤ k) :
    (run true s (quiet k)).done = true := by
  obtain ⟨k0, hk0, hd⟩ := completes_when_quiet s h
  have e : k = k0 + (k - k0) := by omega
  rw [e, run_quiet_add, done_stable_run _ hd]
  exact hd

/-- the pinned, unrepaired walk can dereference a closed handle: read the map, pin collection 0,
    the mutator re-issues SetCollection for collection 1, the walk pins the stale handle -/
theorem unsafe_panics :
    (run false (init 2 (fun _ => 0)) [.pin, .pin, .swap 1, .pin]).panicked = true := by decide

end Gkv.FlushPin
