/-
`collsSet` / `collsGet` on a collection list: what they do to membership, to name order and to
each other.  Names are compared with the lawful `compare` on `Bytes`.
-/
import Gkv.Model.Store
open Std

namespace Gkv

theorem ne_of_compare_lt {a b : Bytes} (h : compare a b = .lt) : a ≠ b := by
  rintro rfl; rw [ReflCmp.compare_self (cmp := compare)] at h; cases h

theorem ne_of_compare_gt {a b : Bytes} (h : compare a b = .gt) : a ≠ b := by
  rintro rfl; rw [ReflCmp.compare_self (cmp := compare)] at h; cases h

theorem collsGet_some {n : Bytes} : ∀ {cs : List Coll} {c : Coll}, collsGet n cs = some c →
    c ∈ cs ∧ c.name = n
  | d :: rest, c, h => by
    rw [collsGet] at h
    split at h
    · next hd => cases h; exact ⟨List.mem_cons_self .., hd⟩
    · exact ⟨List.mem_cons_of_mem _ (collsGet_some h).1, (collsGet_some h).2⟩

theorem collsGet_none {n : Bytes} : ∀ {cs : List Coll}, (∀ d ∈ cs, d.name ≠ n) → collsGet n cs = none
  | [], _ => rfl
  | d :: rest, h => by
    rw [collsGet, if_neg (h d (List.mem_cons_self ..))]
    exact collsGet_none fun e he => h e (List.mem_cons_of_mem _ he)

theorem mem_collsSet {c x : Coll} : ∀ {cs : List Coll}, x ∈ collsSet c cs → x = c ∨ x ∈ cs
  | [], h => Or.inl (List.mem_singleton.mp h)
  | d :: rest, h => by
    rw [collsSet] at h
    split at h
    · exact List.mem_cons.mp h
    · exact (List.mem_cons.mp h).imp_right (List.mem_cons_of_mem _)
    · rcases List.mem_cons.mp h with rfl | h
      · exact Or.inr (List.mem_cons_self ..)
      · exact (mem_collsSet h).imp_right (List.mem_cons_of_mem _)

theorem collsSet_sorted (c : Coll) : ∀ cs : List Coll,
    cs.Pairwise (fun a b => compare a.name b.name = .lt) →
    (collsSet c cs).Pairwise (fun a b => compare a.name b.name = .lt)
  | [], _ => List.pairwise_singleton ..
  | d :: rest, h => by
    obtain ⟨h1, h2⟩ := List.pairwise_cons.mp h
    rw [collsSet]
    split
    next hlt =>
      exact List.pairwise_cons.mpr ⟨fun e he => (List.mem_cons.mp he).elim (· ▸ hlt)
        fun he => TransCmp.lt_trans hlt (h1 e he), h⟩
    next heq =>
      exact List.pairwise_cons.mpr ⟨fun e he => LawfulEqCmp.eq_of_compare heq ▸ h1 e he, h2⟩
    next hgt =>
      exact List.pairwise_cons.mpr ⟨fun e he => (mem_collsSet he).elim
        (· ▸ OrientedCmp.lt_of_gt hgt) (h1 e), collsSet_sorted c rest h2⟩

theorem collsGet_collsSet_self (d : Coll) : ∀ cs : List Coll, collsGet d.name (collsSet d cs) = some d
  | [] => if_pos rfl
  | e :: rest => by
    rw [collsSet]
    split
    · exact if_pos rfl
    · exact if_pos rfl
    next hgt =>
      rw [collsGet, if_neg fun h => ne_of_compare_gt hgt h.symm]
      exact collsGet_collsSet_self d rest

/-- a collection whose name is below all names of `cs` goes to the front -/
theorem collsSet_lt (c : Coll) (cs : List Coll) (h : ∀ d ∈ cs, compare c.name d.name = .lt) :
    collsSet c cs = c :: cs := by
  cases cs with
  | nil => rfl
  | cons d rest => rw [collsSet, h d (List.mem_cons_self ..)]

/-- a collection whose name is above all names of `cs` goes to the end -/
theorem collsSet_append_gt (cs : List Coll) (d : Coll)
    (h : ∀ c ∈ cs, compare c.name d.name = .lt) : collsSet d cs = cs ++ [d] := by
  induction cs with
  | nil => rfl
  | cons c cs ih =>
    have hc : compare d.name c.name = .gt := OrientedCmp.gt_of_lt (h c (List.mem_cons_self ..))
    simp only [collsSet, hc, List.cons_append]
    rw [ih (fun x hx => h x (List.mem_cons_of_mem _ hx))]

/-- setting twice under one name is setting once -/
theorem collsSet_collsSet (d d' : Coll) (hn : d'.name = d.name) (cs : List Coll) :
    collsSet d' (collsSet d cs) = collsSet d' cs := by
  induction cs with
  | nil => simp only [collsSet, hn, ReflCmp.compare_self (cmp := compare)]
  | cons c cs ih =>
    rw [collsSet, collsSet, hn]
    split
    next h => rw [collsSet, hn, ReflCmp.compare_self (cmp := compare)]
    next h => rw [collsSet, hn, ReflCmp.compare_self (cmp := compare)]
    next h => rw [collsSet, hn, h, ih]

end Gkv
