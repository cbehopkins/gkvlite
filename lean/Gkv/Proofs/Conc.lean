/-
Model C (`Gkv.Model.Conc`), property C05: one invariant of all states reachable under any schedule,
in three independent parts: the histories and the mutator (`HistOk`), the reference counts against
the pins the threads hold (`RefsOk`), and what the readers and the flusher have observed so far.
Every step except the mutator's CAS does one of three things to the shared state (`Quiet`).
-/
import Gkv.Model.Conc

namespace Gkv.Conc

theorem sum_map_set {α : Type} (f : α → Nat) {l : List α} {i : Nat} {a : α} (h : l[i]? = some a)
    (b : α) : ((l.set i b).map f).sum + f a = (l.map f).sum + f b := by
  induction l generalizing i with
  | nil => cases h
  | cons x l ih =>
    cases i with
    | zero => cases h; simp only [List.set_cons_zero, List.map_cons, List.sum_cons]; omega
    | succ i =>
      have := ih (i := i) h
      simp only [List.set_cons_succ, List.map_cons, List.sum_cons]; omega

theorem getElem?_snoc {α : Type} {l : List α} {x y : α} {j : Nat} (h : (l ++ [x])[j]? = some y) :
    l[j]? = some y ∨ j = l.length ∧ y = x := by
  rcases Nat.lt_trichotomy j l.length with hlt | rfl | hgt
  · exact .inl (List.getElem?_append_left hlt ▸ h)
  · exact .inr ⟨rfl, (Option.some.inj (List.getElem?_concat_length .. ▸ h)).symm⟩
  · rw [List.getElem?_eq_none (by simp; omega)] at h; cases h

section shared
variable (sh : Shared) (c idx : Nat) (v : Val)

@[simp] theorem tick_hist : sh.tick.hist = sh.hist := rfl
@[simp] theorem tick_refs : sh.tick.refs = sh.refs := rfl
@[simp] theorem tick_now : sh.tick.now = sh.now + 1 := rfl
@[simp] theorem tick_underflow : sh.tick.underflow = sh.underflow := rfl
@[simp] theorem tick_curIdx : sh.tick.curIdx c = sh.curIdx c := rfl
@[simp] theorem tick_valAt : sh.tick.valAt c idx = sh.valAt c idx := rfl
@[simp] theorem incRef_hist : (sh.incRef c idx).hist = sh.hist := rfl
@[simp] theorem incRef_now : (sh.incRef c idx).now = sh.now := rfl
@[simp] theorem incRef_underflow : (sh.incRef c idx).underflow = sh.underflow := rfl
@[simp] theorem decRef_hist : (sh.decRef c idx).hist = sh.hist := rfl
@[simp] theorem decRef_now : (sh.decRef c idx).now = sh.now := rfl
@[simp] theorem decRef_underflow :
    (sh.decRef c idx).underflow = (sh.underflow || (sh.refs c idx == 0)) := rfl
@[simp] theorem publish_now : (sh.publish c v).now = sh.now := rfl
@[simp] theorem publish_underflow : (sh.publish c v).underflow = sh.underflow := rfl

theorem one_comm (c' i' : Nat) : one c idx c' i' = one c' i' c idx := by
  unfold one
  by_cases h : c = c' ∧ idx = i'
  · rw [if_pos h, if_pos ⟨h.1.symm, h.2.symm⟩]
  · rw [if_neg h, if_neg fun e => h ⟨e.1.symm, e.2.symm⟩]

theorem one_of_ne {c c' : Nat} (h : c' ≠ c) (idx i' : Nat) : one c idx c' i' = 0 :=
  if_neg fun e => h e.1.symm

theorem incRef_refs (c' i' : Nat) :
    (sh.incRef c idx).refs c' i' = sh.refs c' i' + one c idx c' i' := by
  rw [one_comm]
  show (if _ then _ else _) = _ + if _ then _ else _
  split <;> rfl

theorem decRef_refs (c' i' : Nat) :
    (sh.decRef c idx).refs c' i' = sh.refs c' i' - one c idx c' i' := by
  rw [one_comm]
  show (if _ then _ else _) = _ - if _ then _ else _
  split <;> rfl

theorem publish_hist (c' : Nat) : (sh.publish c v).hist c' =
    if c' = c then sh.hist c ++ [⟨v, sh.now⟩] else sh.hist c' := rfl

/-- the new version is born with one reference, at an index that had none -/
theorem publish_refs (hf : sh.refs c (sh.hist c).length = 0) (c' i' : Nat) :
    (sh.publish c v).refs c' i' = sh.refs c' i' + one c (sh.hist c).length c' i' := by
  rw [one_comm]
  show (if _ then _ else _) = _ + if _ then _ else _
  split
  · next e => rw [e.1, e.2, hf]
  · rfl

/-- publishing moves the collection's own reference from the last version to the new one -/
theorem curRef_publish (hidx : idx + 1 = (sh.hist c).length) (c' i' : Nat) :
    curRef ((sh.publish c v).hist c') i' + one c idx c' i' =
      curRef (sh.hist c') i' + one c (sh.hist c).length c' i' := by
  rw [publish_hist]
  by_cases hc : c' = c
  · subst hc
    unfold curRef one
    rw [if_pos rfl, List.length_append, List.length_singleton, ← hidx]
    simp only [true_and, Nat.add_right_cancel_iff, @eq_comm _ i']
    exact Nat.add_comm ..
  · rw [if_neg hc, one_of_ne hc, one_of_ne hc]

theorem one_self : one c idx c idx = 1 := by simp [one]

end shared

theorem curIdx_succ {sh : Shared} {c : Nat} (hne : sh.hist c ≠ []) :
    sh.curIdx c + 1 = (sh.hist c).length :=
  Nat.sub_add_cancel (List.length_pos_iff.2 hne)

theorem pinCount_nil (c idx : Nat) : pinCount [] c idx = 0 := rfl
theorem pinCount_cons (p : Pin) (l : List Pin) (c idx : Nat) :
    pinCount (p :: l) c idx = one p.c p.idx c idx + pinCount l c idx := by
  simp [pinCount]
theorem pinCount_snoc (p : Pin) (l : List Pin) (c idx : Nat) :
    pinCount (l ++ [p]) c idx = pinCount l c idx + one p.c p.idx c idx := by
  simp [pinCount]

/-! What a thread has observed is stated relative to a shared state, and stays true in every later
one (`Ext`); the content of that is `PinOk.ext` and `PinOk.valAt_ext`. -/

/-- `sh'` is a later shared state than `sh`: time moved on, histories only grew, and the versions
added were published after `sh.now` -/
structure Ext (sh sh' : Shared) : Prop where
  now_le : sh.now ≤ sh'.now
  hist : ∀ c, sh'.hist c = sh.hist c ∨ ∃ v, sh'.hist c = sh.hist c ++ [v] ∧ sh.now < v.pub

/-- a pin taken at time `τ` captured version `idx`, which was the current one at that instant -/
def PinOk (sh : Shared) (c idx τ : Nat) : Prop := τ ≤ sh.now ∧ IsCurrentAt (sh.hist c) idx τ

theorem PinOk.ext {sh sh' : Shared} (e : Ext sh sh') {c idx τ : Nat} (h : PinOk sh c idx τ) :
    PinOk sh' c idx τ := by
  refine ⟨Nat.le_trans h.1 e.now_le, ?_⟩
  rcases e.hist c with heq | ⟨v, heq, hv⟩ <;> rw [heq]
  · exact h.2
  · obtain ⟨hle, hlt, hall⟩ := h
    refine ⟨by rw [List.length_append]; exact Nat.lt_add_right _ hlt, fun j w hj => ?_⟩
    rcases getElem?_snoc hj with hj | ⟨rfl, rfl⟩
    · exact hall j w hj
    · constructor <;> intro <;> omega

theorem PinOk.valAt_ext {sh sh' : Shared} (e : Ext sh sh') {c idx τ : Nat} (h : PinOk sh c idx τ) :
    sh'.valAt c idx = sh.valAt c idx := by
  unfold Shared.valAt
  rcases e.hist c with heq | ⟨v, heq, _⟩ <;> rw [heq]
  rw [List.getElem?_append_left h.2.1]

theorem getElem?_valAt {sh : Shared} {c idx : Nat} (h : idx < (sh.hist c).length) :
    ((sh.hist c)[idx]?).map Version.val = some (sh.valAt c idx) := by
  unfold Shared.valAt
  rw [List.getElem?_eq_getElem h]; rfl

/-- the computable `curAt` agrees with `IsCurrentAt`: exactly the first `idx + 1` versions count -/
theorem curAt_eq {h : List Version} {idx τ : Nat} (hc : IsCurrentAt h idx τ) : curAt h τ = idx := by
  unfold curAt
  rw [← List.take_append_drop (idx + 1) h, List.countP_append, List.countP_eq_length.2,
    List.countP_eq_zero.2, List.length_take, Nat.min_eq_left hc.1]
  · rfl
  · intro v hv
    obtain ⟨j, hj⟩ := List.mem_iff_getElem?.1 hv
    have := (hc.2 _ _ (List.getElem?_drop ▸ hj)).1
    simp only [decide_eq_true_eq]; omega
  · intro _ hv
    obtain ⟨j, hj, rfl⟩ := List.mem_take_iff_getElem.1 hv
    exact decide_eq_true ((hc.2 j _ (List.getElem?_eq_getElem _)).2 (by omega))

theorem curAt_mono (h : List Version) {τ τ' : Nat} (hle : τ ≤ τ') : curAt h τ ≤ curAt h τ' :=
  Nat.sub_le_sub_right (List.countP_mono_left fun _ _ hx =>
    decide_eq_true (Nat.le_trans (of_decide_eq_true hx) hle)) 1

theorem valuesUpTo_getLast? (initV : Nat → Val) (prog : List Op) (k c : Nat) :
    (valuesUpTo initV prog k c).getLast? = some (worldAt initV prog k c) := by
  unfold valuesUpTo worldAt
  exact List.getLast?_scanl

theorem valuesUpTo_succ {initV : Nat → Val} {prog : List Op} {k c : Nat} {f : Val → Val}
    (h : prog[k]? = some (c, f)) (c' : Nat) :
    valuesUpTo initV prog (k + 1) c' =
      if c' = c then valuesUpTo initV prog k c ++ [f (worldAt initV prog k c)]
      else valuesUpTo initV prog k c' := by
  unfold valuesUpTo worldAt
  rw [List.take_add_one, h]
  by_cases hc : c' = c
  · subst hc
    simp [List.filter_append, List.scanl_append]
  · have : ¬ c = c' := fun e => hc e.symm
    simp [List.filter_append, hc, this]

theorem worldAt_succ {initV : Nat → Val} {prog : List Op} {k c : Nat} {f : Val → Val}
    (h : prog[k]? = some (c, f)) (c' : Nat) :
    worldAt initV prog (k + 1) c' =
      if c' = c then f (worldAt initV prog k c) else worldAt initV prog k c' := by
  apply Option.some.inj
  rw [← valuesUpTo_getLast?, valuesUpTo_succ h]
  split
  · exact List.getLast?_concat
  · exact valuesUpTo_getLast? ..

theorem worldAt_of_length_le {initV : Nat → Val} {prog : List Op} {k : Nat}
    (h : prog.length ≤ k) (c : Nat) : worldAt initV prog k c = worldAt initV prog prog.length c := by
  unfold worldAt
  rw [List.take_of_length_le h, List.take_of_length_le (Nat.le_refl _)]

theorem mem_valuesUpTo {initV : Nat → Val} {prog : List Op} {c : Nat} (k : Nat) (x : Val)
    (hx : x ∈ valuesUpTo initV prog k c) : ∃ j, j ≤ k ∧ x = worldAt initV prog j c := by
  induction k with
  | zero => exact ⟨0, Nat.le_refl _, List.mem_singleton.1 hx⟩
  | succ k ih =>
    have ih := fun hx => let ⟨j, hj, e⟩ := ih hx
      (⟨j, Nat.le_succ_of_le hj, e⟩ : ∃ j, j ≤ k + 1 ∧ x = worldAt initV prog j c)
    cases hp : prog[k]? with
    | none => exact ih (by rwa [valuesUpTo, List.take_add_one, hp, Option.toList, List.append_nil] at hx)
    | some op =>
      rw [valuesUpTo_succ (c := op.1) (f := op.2) hp] at hx
      split at hx
      · next hc =>
        rcases List.mem_append.1 hx with hx | hx
        · exact ih (hc ▸ hx)
        · exact ⟨k + 1, Nat.le_refl _, by rw [worldAt_succ hp, if_pos hc]; exact List.mem_singleton.1 hx⟩
      · exact ih hx

/-! What each thread knows, stated relative to a shared state, one predicate per program counter (`MutOk`, `RPcOk`,
`FPcOk`).  A log record is judged as the last program counter of its call plus its finishing time (`RecOk`,
`FlushRecOk`), so the `.ext` lemmas serve the logs and the running calls alike. -/

/-- the mutator's pin is on the current version; its new value is built from the current one -/
def MutOk (sh : Shared) (m : Mut) : Prop :=
  match m.pc with
  | .idle => True
  | .pinned c f idx => m.prog[m.ncas]? = some (c, f) ∧ idx + 1 = (sh.hist c).length
  | .built c idx v =>
    ∃ f, m.prog[m.ncas]? = some (c, f) ∧ idx + 1 = (sh.hist c).length ∧ v = f (sh.valAt c idx)
  | .casDone _ _ => True

def RPcOk (sh : Shared) : RPc → Prop
  | .idle => True
  | .started _ t0 => t0 ≤ sh.now
  | .pinned c t0 tp idx => t0 < tp ∧ PinOk sh c idx tp
  | .got c t0 tp idx res => t0 < tp ∧ PinOk sh c idx tp ∧ res = sh.valAt c idx
  | .unpinned c t0 tp idx res => t0 < tp ∧ PinOk sh c idx tp ∧ res = sh.valAt c idx

/-- a log entry records what the reader knew before its last step, and the time of that step -/
def RecOk (sh : Shared) (e : ReadRec) : Prop :=
  e.pinTime < e.fin ∧ RPcOk sh (.unpinned e.c e.start e.pinTime e.idx e.result)

def ReaderOk (sh : Shared) (r : Reader) : Prop := (∀ e ∈ r.log, RecOk sh e) ∧ RPcOk sh r.pc

/-- the pins of a Flush in progress: collection `c` is pinned by `pins[c]`, each pin captured the
then-current version, and the pin instants increase strictly from the start of the Flush on -/
structure PinsOk (sh : Shared) (t0 : Nat) (pins : List Pin) : Prop where
  start_le : t0 ≤ sh.now
  pin : ∀ (c : Nat) (p : Pin), pins[c]? = some p → p.c = c ∧ PinOk sh c p.idx p.time
  incr : List.Pairwise (· < ·) (t0 :: pins.map Pin.time)

def FPcOk (nColl : Nat) (sh : Shared) : FPc → Prop
  | .idle => True
  | .pinning t0 pins => pins.length ≤ nColl ∧ PinsOk sh t0 pins
  | .unpinning t0 pins vals _ =>
    pins.length = nColl ∧ PinsOk sh t0 pins ∧ vals = pins.map fun p => sh.valAt p.c p.idx

def FlushRecOk (nColl : Nat) (sh : Shared) (r : FlushRec) : Prop :=
  (∀ t ∈ r.start :: r.pins.map Pin.time, t < r.fin) ∧ FPcOk nColl sh (.unpinning r.start r.pins r.vals [])

def FlusherOk (nColl : Nat) (sh : Shared) (f : Flusher) : Prop :=
  (∀ r ∈ f.log, FlushRecOk nColl sh r) ∧ FPcOk nColl sh f.pc

theorem RPcOk.ext {sh sh' : Shared} (e : Ext sh sh') {pc : RPc} (h : RPcOk sh pc) : RPcOk sh' pc := by
  cases pc with
  | idle => trivial
  | started c t0 => exact Nat.le_trans h e.now_le
  | pinned c t0 tp idx => exact ⟨h.1, h.2.ext e⟩
  | got c t0 tp idx res => exact ⟨h.1, h.2.1.ext e, h.2.2.trans (h.2.1.valAt_ext e).symm⟩
  | unpinned c t0 tp idx res => exact ⟨h.1, h.2.1.ext e, h.2.2.trans (h.2.1.valAt_ext e).symm⟩

theorem ReaderOk.ext {sh sh' : Shared} (e : Ext sh sh') {r : Reader} (h : ReaderOk sh r) :
    ReaderOk sh' r := ⟨fun x hx => (h.1 x hx).imp_right (.ext e), h.2.ext e⟩

theorem PinsOk.ext {sh sh' : Shared} (e : Ext sh sh') {t0 : Nat} {pins : List Pin}
    (h : PinsOk sh t0 pins) : PinsOk sh' t0 pins :=
  ⟨Nat.le_trans h.start_le e.now_le, fun c p hp => (h.pin c p hp).imp_right (.ext e), h.incr⟩

theorem FPcOk.ext {n : Nat} {sh sh' : Shared} (e : Ext sh sh') {pc : FPc} (h : FPcOk n sh pc) :
    FPcOk n sh' pc := by
  cases pc with
  | idle => trivial
  | pinning t0 pins => exact ⟨h.1, h.2.ext e⟩
  | unpinning t0 pins vals rest =>
    refine ⟨h.1, h.2.1.ext e, h.2.2.trans (List.map_congr_left fun p hp => ?_)⟩
    obtain ⟨c, hc⟩ := List.getElem?_of_mem hp
    obtain ⟨rfl, hpin⟩ := h.2.1.pin c p hc
    exact (hpin.valAt_ext e).symm

theorem FlusherOk.ext {n : Nat} {sh sh' : Shared} (e : Ext sh sh') {f : Flusher}
    (h : FlusherOk n sh f) : FlusherOk n sh' f :=
  ⟨fun x hx => (h.1 x hx).imp_right (.ext e), h.2.ext e⟩

/-- the invariant of the histories and of the mutator (for initial contents `initV` and mutator
program `prog`) -/
structure HistOk (initV : Nat → Val) (prog : List Op) (sh : Shared) (m : Mut) : Prop where
  prog_eq : m.prog = prog
  lost : m.lost = false
  ncas_le : m.ncas ≤ m.prog.length
  hist_ne : ∀ c, sh.hist c ≠ []
  pub_le : ∀ c v, v ∈ sh.hist c → v.pub ≤ sh.now
  hist_eq : ∀ c, (sh.hist c).map Version.val = valuesUpTo initV prog m.ncas c
  mpc : MutOk sh m

/-- reference accounting against the pins `H` held by all threads: `refs` is the collection's own
reference on its current version plus the pins, no version beyond the history is referenced, and
no `decRef` has underflowed -/
structure RefsOk (sh : Shared) (H : Nat → Nat → Nat) : Prop where
  uf : sh.underflow = false
  refs : ∀ c idx, sh.refs c idx = curRef (sh.hist c) idx + H c idx
  fresh : ∀ c idx, (sh.hist c).length ≤ idx → sh.refs c idx = 0

structure Inv (initV : Nat → Val) (prog : List Op) (nColl : Nat) (s : State) : Prop where
  hist : HistOk initV prog s.sh s.mu
  refs : RefsOk s.sh s.holders
  rds : ∀ r ∈ s.rds, ReaderOk s.sh r
  fl : FlusherOk nColl s.sh s.fl
  nColl_eq : s.nColl = nColl

theorem inv_init (initV : Nat → Val) (prog : List Op) (nColl nFlush : Nat)
    (rprogs : List (List Nat)) : Inv initV prog nColl (init initV prog nColl nFlush rprogs) where
  hist := ⟨rfl, rfl, Nat.zero_le _, fun _ => List.cons_ne_nil _ _,
    fun _ _ hv => by cases List.mem_singleton.1 hv; exact Nat.le_refl _, fun _ => rfl, trivial⟩
  refs := by
    -- nobody holds a pin
    have hH : ∀ c idx, (init initV prog nColl nFlush rprogs).holders c idx = 0 := fun c idx =>
      (Nat.zero_add _).trans <| List.sum_eq_zero_iff_forall_eq_nat.2 fun x hx => by
        obtain ⟨r, hr, rfl⟩ := List.mem_map.1 hx
        obtain ⟨p, _, rfl⟩ := List.mem_map.1 hr
        rfl
    refine ⟨rfl, fun c idx => ?_, fun c idx hle => if_neg (Nat.ne_of_gt hle)⟩
    rw [hH]
    cases idx <;> rfl
  rds r hr := by
    obtain ⟨p, _, rfl⟩ := List.mem_map.1 hr
    exact ⟨nofun, trivial⟩
  fl := ⟨nofun, trivial⟩
  nColl_eq := rfl

namespace RefsOk
variable {sh : Shared} {H H' : Nat → Nat → Nat} {c idx : Nat}

theorem tick (h : RefsOk sh H) : RefsOk sh.tick H := ⟨h.uf, h.refs, h.fresh⟩

theorem incRef (h : RefsOk sh H) (hi : idx < (sh.hist c).length)
    (hH : ∀ c' i', H' c' i' = H c' i' + one c idx c' i') : RefsOk (sh.incRef c idx) H' := by
  refine ⟨h.uf, fun c' i' => ?_, fun c' i' hle => ?_⟩
  · rw [incRef_refs, h.refs, hH, Nat.add_assoc]; rfl
  · have : one c idx c' i' = 0 := if_neg fun ⟨hc, hi'⟩ => by subst hc hi'; exact Nat.not_le_of_lt hi hle
    rw [incRef_refs, this]; exact h.fresh c' i' hle

/-- the reference released is one of those counted, so the count decremented is positive -/
theorem decRef (h : RefsOk sh H) (hH : ∀ c' i', H c' i' = H' c' i' + one c idx c' i') :
    RefsOk (sh.decRef c idx) H' := by
  have hr : ∀ c' i', sh.refs c' i' = curRef (sh.hist c') i' + H' c' i' + one c idx c' i' :=
    fun c' i' => by rw [h.refs, hH, Nat.add_assoc]
  refine ⟨?_, fun c' i' => ?_, fun c' i' hle => ?_⟩
  · show (sh.underflow || (sh.refs c idx == 0)) = false
    rw [h.uf, hr, one_self]; rfl
  · rw [decRef_refs, hr]; exact Nat.add_sub_cancel ..
  · rw [decRef_refs, h.fresh c' i' hle]; exact Nat.zero_sub _

/-- publishing moves the collection's own reference from the last version to the new one, which
nobody can have pinned yet; the reference left on the last version counts as one more pin -/
theorem publish (h : RefsOk sh H) (hidx : idx + 1 = (sh.hist c).length) (v : Val) :
    RefsOk (sh.publish c v) fun c' i' => H c' i' + one c idx c' i' := by
  have hpr := publish_refs sh c v (h.fresh c _ (Nat.le_refl _))
  refine ⟨h.uf, fun c' i' => ?_, fun c' i' hle => ?_⟩
  · have := h.refs c' i'; have := curRef_publish sh c idx v hidx c' i'
    rw [hpr]; omega
  · -- an index beyond the new history is beyond the old one and is not the new version's
    rw [publish_hist] at hle
    have : (sh.hist c').length ≤ i' ∧ one c (sh.hist c).length c' i' = 0 := by
      split at hle
      · next hc =>
        subst hc
        rw [List.length_append, List.length_singleton] at hle
        exact ⟨Nat.le_of_succ_le hle, if_neg fun e => Nat.not_succ_le_self _ (e.2 ▸ hle)⟩
      · next hc => exact ⟨hle, one_of_ne hc _ _⟩
    rw [hpr, h.fresh c' i' this.1, this.2]

/-- the mutator's CAS step: `rootCAS` publishes, and the explicit `rootDecRef` drops the reference
left on the old version -/
theorem cas (h : RefsOk sh H) (hidx : idx + 1 = (sh.hist c).length) (v : Val) :
    RefsOk ((sh.tick.publish c v).decRef c idx) H :=
  (h.tick.publish hidx v).decRef fun _ _ => rfl

end RefsOk

/-! ### steps that publish nothing

Every step except the mutator's CAS leaves the histories alone.  On the shared state it does one of
three things, and the reference accounting is preserved for one reason per kind, whichever thread
takes the step. -/

/-- the clock ticks, and a thread whose pins go from `p` to `p'` pins the current version of a
collection, releases a pin it holds, or does neither -/
inductive Quiet (sh : Shared) (p p' : Nat → Nat → Nat) : Shared → Prop
  | skip : (∀ c i, p' c i = p c i) → Quiet sh p p' sh.tick
  | pin (c : Nat) : (∀ c' i', p' c' i' = p c' i' + one c (sh.curIdx c) c' i') →
      Quiet sh p p' (sh.tick.incRef c (sh.curIdx c))
  | unpin (c idx : Nat) : (∀ c' i', p c' i' = p' c' i' + one c idx c' i') →
      Quiet sh p p' (sh.tick.decRef c idx)

section quiet
variable {sh sh' : Shared} {p p' : Nat → Nat → Nat}

theorem Quiet.hist (q : Quiet sh p p' sh') : sh'.hist = sh.hist := by cases q <;> rfl

theorem Quiet.now (q : Quiet sh p p' sh') : sh'.now = sh.now + 1 := by cases q <;> rfl

theorem Quiet.ext (q : Quiet sh p p' sh') : Ext sh sh' :=
  ⟨q.now ▸ Nat.le_succ _, fun c => .inl (by rw [q.hist])⟩

theorem HistOk.quiet {initV : Nat → Val} {prog : List Op} {m : Mut} (h : HistOk initV prog sh m)
    (q : Quiet sh p p' sh') {pc : MPc} (hpc : MutOk sh' { m with pc := pc }) :
    HistOk initV prog sh' { m with pc := pc } :=
  ⟨h.prog_eq, h.lost, h.ncas_le, q.hist ▸ h.hist_ne,
    by rw [q.hist, q.now]; exact fun c v hv => Nat.le_succ_of_le (h.pub_le c v hv),
    q.hist ▸ h.hist_eq, hpc⟩

theorem RefsOk.quiet {H H' : Nat → Nat → Nat} (h : RefsOk sh H) (hne : ∀ c, sh.hist c ≠ [])
    (q : Quiet sh p p' sh') (hH : ∀ c i, H' c i + p c i = H c i + p' c i) : RefsOk sh' H' := by
  cases q with
  | skip hp =>
    have e : H' = H := funext fun c => funext fun i => by have := hH c i; have := hp c i; omega
    exact e ▸ h.tick
  | pin c hp =>
    exact h.tick.incRef (Nat.lt_of_succ_le (Nat.le_of_eq (curIdx_succ (hne c)))) fun c' i' => by
      have := hH c' i'; have := hp c' i'; omega
  | unpin c idx hp =>
    exact h.tick.decRef fun c' i' => by have := hH c' i'; have := hp c' i'; omega

end quiet

theorem last_val {sh : Shared} {c idx : Nat} (h : idx + 1 = (sh.hist c).length) :
    ((sh.hist c).map Version.val).getLast? = some (sh.valAt c idx) := by
  rw [List.getLast?_eq_getElem?, List.length_map, ← h, Nat.add_sub_cancel, List.getElem?_map]
  exact getElem?_valAt (h ▸ Nat.lt_add_one idx)

theorem cas_hist (sh : Shared) (c idx : Nat) (v : Val) (c' : Nat) :
    ((sh.tick.publish c v).decRef c idx).hist c' =
      if c' = c then sh.hist c ++ [⟨v, sh.now + 1⟩] else sh.hist c' := rfl

theorem ext_cas (sh : Shared) (c idx : Nat) (v : Val) :
    Ext sh ((sh.tick.publish c v).decRef c idx) := by
  refine ⟨Nat.le_succ _, fun c' => ?_⟩
  rw [cas_hist]
  split
  · next hc => subst hc; exact Or.inr ⟨⟨v, sh.now + 1⟩, rfl, Nat.lt_succ_self _⟩
  · exact Or.inl rfl

theorem HistOk.cas {initV : Nat → Val} {prog : List Op} {sh : Shared} {m : Mut}
    (h : HistOk initV prog sh m) {c idx : Nat} {f : Val → Val}
    (hprog : m.prog[m.ncas]? = some (c, f)) (hidx : idx + 1 = (sh.hist c).length) :
    HistOk initV prog ((sh.tick.publish c (f (sh.valAt c idx))).decRef c idx)
      { m with pc := .casDone c idx, ncas := m.ncas + 1 } where
  prog_eq := h.prog_eq
  lost := h.lost
  ncas_le := (List.getElem?_eq_some_iff.1 hprog).1
  hist_ne c' := by
    rw [cas_hist]
    split
    · exact List.append_ne_nil_of_right_ne_nil _ (List.cons_ne_nil _ _)
    · exact h.hist_ne c'
  pub_le c' w hw := by
    rw [cas_hist] at hw
    show w.pub ≤ sh.now + 1
    split at hw
    · rcases List.mem_append.1 hw with hw | hw
      · exact Nat.le_succ_of_le (h.pub_le c w hw)
      · cases List.mem_singleton.1 hw; exact Nat.le_refl _
    · exact Nat.le_succ_of_le (h.pub_le c' w hw)
  hist_eq c' := by
    -- the content pinned is the content after the executed prefix, because the pin is current
    have hcur : sh.valAt c idx = worldAt initV prog m.ncas c :=
      Option.some.inj ((last_val hidx).symm.trans ((h.hist_eq c ▸ valuesUpTo_getLast? ..)))
    rw [cas_hist, valuesUpTo_succ (h.prog_eq ▸ hprog)]
    split
    · rw [List.map_append, h.hist_eq c, hcur]; rfl
    · exact h.hist_eq c'
  mpc := trivial

theorem MutOk.congr {sh sh' : Shared} (hh : sh'.hist = sh.hist) {m : Mut} (h : MutOk sh m) :
    MutOk sh' m := by
  unfold MutOk Shared.valAt at *
  rw [hh]; exact h

/-- a pin taken at the next instant captures the version that is current then -/
theorem pinOk_now {initV : Nat → Val} {prog : List Op} {sh : Shared} {m : Mut}
    (h : HistOk initV prog sh m) (c : Nat) : PinOk sh.tick c (sh.curIdx c) (sh.now + 1) := by
  have hl := curIdx_succ (h.hist_ne c)
  refine ⟨Nat.le_refl _, show _ < (sh.hist c).length by omega, fun j v hj => ?_⟩
  have h1 := h.pub_le c v (List.mem_of_getElem? hj)
  have h2 : j < (sh.hist c).length := (List.getElem?_eq_some_iff.1 hj).1
  constructor <;> intro <;> omega

section steps
variable {initV : Nat → Val} {prog : List Op} {nColl : Nat} {s : State} {sh : Shared}

theorem Inv.quiet_mu (h : Inv initV prog nColl s) {pc : MPc}
    (q : Quiet s.sh s.mu.pins (Mut.pins { s.mu with pc := pc }) sh)
    (hpc : MutOk sh { s.mu with pc := pc }) :
    Inv initV prog nColl { s with sh := sh, mu := { s.mu with pc := pc } } :=
  ⟨h.hist.quiet q hpc, h.refs.quiet h.hist.hist_ne q fun c i => by simp only [State.holders]; omega,
    fun r hr => (h.rds r hr).ext q.ext, h.fl.ext q.ext, h.nColl_eq⟩

theorem inv_mut (h : Inv initV prog nColl s) {m : Mut}
    (hs : mutStep s.sh.tick s.mu = some (sh, m)) :
    Inv initV prog nColl { s with sh := sh, mu := m } := by
  obtain ⟨sh₀, n, ⟨mprog, ncas, pc, lost⟩, fl, rds⟩ := s
  have hm : MutOk sh₀ _ := h.hist.mpc
  cases pc with
  | idle =>
    dsimp only [mutStep] at hs
    split at hs
    · cases hs
    · next c f hprog =>
      cases hs
      exact h.quiet_mu (.pin c fun _ _ => (Nat.zero_add _).symm)
        ⟨hprog, curIdx_succ (h.hist.hist_ne c)⟩
  | pinned c f idx =>
    cases hs
    exact h.quiet_mu (.skip fun _ _ => rfl) ⟨f, hm.1, hm.2, rfl⟩
  | built c idx v =>
    obtain ⟨f, hprog, hidx, rfl⟩ := hm
    -- the version pinned is still the current one: the CAS takes its successful branch
    cases (if_pos hidx).symm.trans hs
    have e := ext_cas sh₀ c idx (f (sh₀.valAt c idx))
    exact ⟨h.hist.cas hprog hidx, h.refs.cas hidx _, fun r hr => (h.rds r hr).ext e, h.fl.ext e,
      h.nColl_eq⟩
  | casDone c idx =>
    cases hs
    exact h.quiet_mu (.unpin c idx fun _ _ => (Nat.zero_add _).symm) trivial

/-! A thread's step is quiet, so what the thread knew holds in the new shared state: each case
starts from that (`h'`).  The knowledge before the step (`h`) is used only for its instants, which
lie strictly before the new `now`. -/

theorem rdStep_ok {sh' : Shared} {r r' : Reader}
    (hcur : ∀ c, PinOk sh.tick c (sh.curIdx c) (sh.now + 1)) (h : ReaderOk sh r)
    (hs : rdStep sh.tick r = some (sh', r')) : Quiet sh r.pins r'.pins sh' ∧ ReaderOk sh' r' := by
  suffices ∃ _ : Quiet sh r.pins r'.pins sh', ReaderOk sh' r → ReaderOk sh' r' from
    let ⟨q, k⟩ := this; ⟨q, k (h.ext q.ext)⟩
  obtain ⟨prog, pc, log⟩ := r
  cases pc with
  | idle =>
    cases prog with
    | nil => cases hs
    | cons c rest => cases hs; exact ⟨.skip fun _ _ => rfl, fun h' => ⟨h'.1, Nat.le_refl _⟩⟩
  | started c t0 =>
    cases hs
    exact ⟨.pin c fun _ _ => (Nat.zero_add _).symm, fun h' => ⟨h'.1, Nat.lt_succ_of_le h.2, hcur c⟩⟩
  | pinned c t0 tp idx =>
    cases hs
    exact ⟨.skip fun _ _ => rfl, fun h' => ⟨h'.1, h'.2.1, h'.2.2, rfl⟩⟩
  | got c t0 tp idx res =>
    cases hs
    exact ⟨.unpin c idx fun _ _ => (Nat.zero_add _).symm, id⟩
  | unpinned c t0 tp idx res =>
    cases hs
    exact ⟨.skip fun _ _ => rfl, fun h' => ⟨List.forall_mem_append.2
      ⟨h'.1, List.forall_mem_singleton.2 ⟨Nat.lt_succ_of_le h.2.2.1.1, h'.2⟩⟩, trivial⟩⟩

theorem inv_rd (h : Inv initV prog nColl s) {i : Nat} {r r' : Reader} (hr : s.rds[i]? = some r)
    (hs : rdStep s.sh.tick r = some (sh, r')) :
    Inv initV prog nColl { s with sh := sh, rds := s.rds.set i r' } := by
  obtain ⟨q, hok⟩ := rdStep_ok (pinOk_now h.hist) (h.rds r (List.mem_of_getElem? hr)) hs
  refine ⟨h.hist.quiet q (h.hist.mpc.congr q.hist), h.refs.quiet h.hist.hist_ne q fun c idx => ?_,
    fun x hx => ?_, h.fl.ext q.ext, h.nColl_eq⟩
  · have := sum_map_set (fun r : Reader => r.pins c idx) hr r'
    simp only [State.holders]; omega
  · rcases List.mem_or_eq_of_mem_set hx with hx | rfl
    · exact (h.rds x hx).ext q.ext
    · exact hok

theorem PinsOk.times_le {sh : Shared} {t0 : Nat} {pins : List Pin} (h : PinsOk sh t0 pins) :
    ∀ t ∈ t0 :: pins.map Pin.time, t ≤ sh.now := by
  intro t ht
  rcases List.mem_cons.1 ht with rfl | ht
  · exact h.start_le
  · obtain ⟨p, hp, rfl⟩ := List.mem_map.1 ht
    obtain ⟨c, hc⟩ := List.getElem?_of_mem hp
    exact (h.pin c p hc).2.1

theorem PinsOk.snoc {sh : Shared} {t0 : Nat} {pins : List Pin} (h : PinsOk sh t0 pins)
    {idx τ : Nat} (hp : PinOk sh pins.length idx τ) (hτ : ∀ t ∈ t0 :: pins.map Pin.time, t < τ) :
    PinsOk sh t0 (pins ++ [⟨pins.length, τ, idx⟩]) where
  start_le := h.start_le
  pin c p hc := by
    rcases getElem?_snoc hc with hc | ⟨rfl, rfl⟩
    · exact h.pin c p hc
    · exact ⟨rfl, hp⟩
  incr := by
    rw [List.map_append, ← List.cons_append, List.pairwise_append]
    refine ⟨h.incr, List.pairwise_singleton .., fun a ha b hb => ?_⟩
    cases List.mem_singleton.1 hb
    exact hτ a ha

theorem flStep_ok {sh' : Shared} {f f' : Flusher}
    (hcur : ∀ c, PinOk sh.tick c (sh.curIdx c) (sh.now + 1)) (h : FlusherOk nColl sh f)
    (hs : flStep nColl sh.tick f = some (sh', f')) :
    Quiet sh f.pins f'.pins sh' ∧ FlusherOk nColl sh' f' := by
  suffices ∃ _ : Quiet sh f.pins f'.pins sh', FlusherOk nColl sh' f → FlusherOk nColl sh' f' from
    let ⟨q, k⟩ := this; ⟨q, k (h.ext q.ext)⟩
  obtain ⟨todo, pc, log⟩ := f
  cases pc with
  | idle =>
    cases todo with
    | zero => cases hs
    | succ k =>
      cases hs
      exact ⟨.skip fun _ _ => rfl, fun h' =>
        ⟨h'.1, Nat.zero_le _, Nat.le_refl _, nofun, List.pairwise_singleton ..⟩⟩
  | pinning t0 pins =>
    dsimp only [flStep] at hs
    split at hs
    · next hlt =>
      cases hs
      exact ⟨.pin pins.length fun _ _ => pinCount_snoc .., fun h' =>
        ⟨h'.1, by rw [List.length_append]; exact hlt,
          h'.2.2.snoc (hcur _) fun t ht => Nat.lt_succ_of_le (h.2.2.times_le t ht)⟩⟩
    · next hge =>
      cases hs
      exact ⟨.skip fun _ _ => rfl, fun h' =>
        ⟨h'.1, Nat.le_antisymm h.2.1 (Nat.le_of_not_lt hge), h'.2.2, rfl⟩⟩
  | unpinning t0 pins vals rest =>
    cases rest with
    | cons p rest =>
      cases hs
      exact ⟨.unpin p.c p.idx fun _ _ => (pinCount_cons ..).trans (Nat.add_comm ..), id⟩
    | nil =>
      cases hs
      exact ⟨.skip fun _ _ => rfl, fun h' => ⟨List.forall_mem_append.2 ⟨h'.1, List.forall_mem_singleton.2
        ⟨fun t ht => Nat.lt_succ_of_le (h.2.2.1.times_le t ht), h'.2⟩⟩, trivial⟩⟩

theorem inv_fl (h : Inv initV prog nColl s) {f : Flusher}
    (hs : flStep s.nColl s.sh.tick s.fl = some (sh, f)) :
    Inv initV prog nColl { s with sh := sh, fl := f } := by
  rw [h.nColl_eq] at hs
  obtain ⟨q, hok⟩ := flStep_ok (pinOk_now h.hist) h.fl hs
  exact ⟨h.hist.quiet q (h.hist.mpc.congr q.hist),
    h.refs.quiet h.hist.hist_ne q fun c idx => by simp only [State.holders]; omega,
    fun r hr => (h.rds r hr).ext q.ext, hok, h.nColl_eq⟩

theorem inv_step (h : Inv initV prog nColl s) (tid : Nat) : Inv initV prog nColl (step s tid) := by
  unfold step
  split
  · split
    · exact h
    · next hs => exact inv_mut h hs
  · split
    · exact h
    · next hs => exact inv_fl h hs
  · split
    · exact h
    · next hr =>
      split
      · exact h
      · next hs => exact inv_rd h hr hs

end steps

theorem inv_run (initV : Nat → Val) (prog : List Op) (nColl nFlush : Nat)
    (rprogs : List (List Nat)) (sched : List Nat) :
    Inv initV prog nColl (run initV prog nColl nFlush rprogs sched) :=
  List.foldlRecOn sched step (inv_init initV prog nColl nFlush rprogs) fun _ h t _ => inv_step h t
section main
variable (initV : Nat → Val) (prog : List Op) (nColl nFlush : Nat) (rprogs : List (List Nat))
  (sched : List Nat)

/-- Whenever the mutator arrives at its rootCAS, the version it pinned is still the current
one: the CAS succeeds. -/
theorem cas_never_fails (c idx : Nat) (v : Val)
    (hpc : (run initV prog nColl nFlush rprogs sched).mu.pc = .built c idx v) :
    idx + 1 = ((run initV prog nColl nFlush rprogs sched).sh.hist c).length := by
  have h := (inv_run initV prog nColl nFlush rprogs sched).hist.mpc
  unfold MutOk at h
  rw [hpc] at h
  obtain ⟨_, _, h, _⟩ := h
  exact h

/-- The lost-update flag is never set, and the history of every collection is exactly the
sequence of contents produced by the executed prefix (`ncas` operations, `ncas ≤ prog.length`) of
the mutator's program restricted to that collection, in program order. -/
theorem no_lost_update :
    let s := run initV prog nColl nFlush rprogs sched
    s.mu.lost = false ∧ s.mu.ncas ≤ prog.length ∧
    ∀ c, (s.sh.hist c).map Version.val =
      ((prog.take s.mu.ncas).filter (fun op => op.1 == c)).scanl (fun v op => op.2 v) (initV c) := by
  have h := (inv_run initV prog nColl nFlush rprogs sched).hist
  exact ⟨h.lost, Nat.le_trans h.ncas_le (Nat.le_of_eq (congrArg _ h.prog_eq)), h.hist_eq⟩

/-- Trace validation is what stream `c05` does (`Model/Driver.lean`): the harness reports, for every call of the real
package, the number `k` of mutations published before its pin, and the driver evaluates the call on its world after the
first `k` mutations; `worldAt … k` is that world in Model C, and the statement is that these are the only contents there are: the current content of every
collection is `worldAt` after the executed prefix, and every published version is `worldAt` after some shorter prefix. -/
theorem hist_worldAt (c : Nat) :
    let s := run initV prog nColl nFlush rprogs sched
    ((s.sh.hist c).getLast?).map Version.val = some (worldAt initV prog s.mu.ncas c) ∧
    ∀ v ∈ s.sh.hist c, ∃ k, k ≤ s.mu.ncas ∧ v.val = worldAt initV prog k c := by
  have h := (inv_run initV prog nColl nFlush rprogs sched).hist
  constructor
  · rw [← List.getLast?_map, h.hist_eq c, valuesUpTo_getLast?]
  · intro v hv
    apply mem_valuesUpTo
    rw [← h.hist_eq c]
    exact List.mem_map_of_mem hv

/-- When the mutator has finished, every collection holds the result of the whole program. -/
theorem final_contents (c : Nat)
    (hfin : (run initV prog nColl nFlush rprogs sched).mu.finished = true) :
    (((run initV prog nColl nFlush rprogs sched).sh.hist c).getLast?).map Version.val =
      some (worldAt initV prog prog.length c) := by
  have h := (inv_run initV prog nColl nFlush rprogs sched).hist
  unfold Mut.finished at hfin
  split at hfin
  · rw [← worldAt_of_length_le (h.prog_eq ▸ of_decide_eq_true hfin)]
    exact (hist_worldAt initV prog nColl nFlush rprogs sched c).1
  · cases hfin

/-- Every completed read-only call `(c, start, pinTime, idx, result, end)` returned the content
of the single version `idx` of `c`, which was the current version of `c` at the instant `pinTime`
strictly between the call's start and end. -/
theorem read_one_version :
    let s := run initV prog nColl nFlush rprogs sched
    ∀ r ∈ s.rds, ∀ e ∈ r.log,
      e.start < e.pinTime ∧ e.pinTime < e.fin ∧
      IsCurrentAt (s.sh.hist e.c) e.idx e.pinTime ∧
      curAt (s.sh.hist e.c) e.pinTime = e.idx ∧
      ((s.sh.hist e.c)[e.idx]?).map Version.val = some e.result := by
  intro s r hr e he
  obtain ⟨hfin, hlt, hpin, hval⟩ := ((inv_run initV prog nColl nFlush rprogs sched).rds r hr).1 e he
  exact ⟨hlt, hfin, hpin.2, curAt_eq hpin.2, hval ▸ getElem?_valAt hpin.2.1⟩

/-- Trace validation: every value returned by a read is the content of the collection after
some prefix of the mutator's program. -/
theorem read_worldAt :
    let s := run initV prog nColl nFlush rprogs sched
    ∀ r ∈ s.rds, ∀ e ∈ r.log, ∃ k, k ≤ s.mu.ncas ∧ e.result = worldAt initV prog k e.c := by
  intro s r hr e he
  have h := (read_one_version initV prog nColl nFlush rprogs sched r hr e he).2.2.2.2
  obtain ⟨v, hg, hv⟩ := Option.map_eq_some_iff.1 h
  exact hv ▸ (hist_worldAt initV prog nColl nFlush rprogs sched e.c).2 v (List.mem_of_getElem? hg)

/-- Every completed Flush pinned all `nColl` collections, collection `c` at the instant
`pins[c].time`; these instants increase strictly with `c` and lie strictly between the start and the
end of the Flush; the version pinned for `c` was the current one at that instant, and its content is
what was written (`vals[c]`). -/
theorem flush_versions :
    let s := run initV prog nColl nFlush rprogs sched
    ∀ rec ∈ s.fl.log,
      rec.pins.length = nColl ∧ rec.vals.length = nColl ∧
      List.Pairwise (· < ·) (rec.start :: rec.pins.map Pin.time ++ [rec.fin]) ∧
      ∀ c p, rec.pins[c]? = some p →
        p.c = c ∧ IsCurrentAt (s.sh.hist c) p.idx p.time ∧ curAt (s.sh.hist c) p.time = p.idx ∧
        ∃ x, rec.vals[c]? = some x ∧ ((s.sh.hist c)[p.idx]?).map Version.val = some x := by
  intro s rec hrec
  obtain ⟨hfin, hlen, hpins, hvals⟩ := ((inv_run initV prog nColl nFlush rprogs sched).fl).1 rec hrec
  refine ⟨hlen, by rw [hvals, List.length_map, hlen], ?_, fun c p hp => ?_⟩
  · rw [List.pairwise_append]
    refine ⟨hpins.incr, List.pairwise_singleton .., fun a ha b hb => ?_⟩
    cases List.mem_singleton.1 hb
    exact hfin a ha
  · obtain ⟨rfl, hpin⟩ := hpins.pin c p hp
    exact ⟨rfl, hpin.2, curAt_eq hpin.2, _, by rw [hvals, List.getElem?_map, hp]; rfl,
      getElem?_valAt hpin.2.1⟩

/-- Name order: for `c < c'` the Flush captured `c'` later than `c`, and the version of `c'` it
persisted is at least the version `c'` had at the instant `c` was captured (versions only grow): a
later-named collection is never persisted in an older state than it had when an earlier-named one
was captured. -/
theorem flush_order :
    let s := run initV prog nColl nFlush rprogs sched
    ∀ rec ∈ s.fl.log, ∀ c c' p p', c < c' → rec.pins[c]? = some p → rec.pins[c']? = some p' →
      p.time < p'.time ∧ curAt (s.sh.hist c') p.time ≤ p'.idx := by
  intro s rec hrec c c' p p' hcc hp hp'
  obtain ⟨_, _, hpins, _⟩ := ((inv_run initV prog nColl nFlush rprogs sched).fl).1 rec hrec
  have hlt : p.time < p'.time := by
    have hpw := (List.pairwise_cons.1 hpins.incr).2
    rw [List.pairwise_map] at hpw
    obtain ⟨h1, e1⟩ := List.getElem?_eq_some_iff.1 hp
    obtain ⟨h2, e2⟩ := List.getElem?_eq_some_iff.1 hp'
    exact e1 ▸ e2 ▸ List.pairwise_iff_getElem.1 hpw c c' h1 h2 hcc
  exact ⟨hlt, curAt_eq (hpins.pin c' p' hp').2.2 ▸ curAt_mono _ (Nat.le_of_lt hlt)⟩

/-- `refs c idx` = (1 if `idx` is the current version of `c`) + the number of pins held on
`(c, idx)` by all threads. -/
theorem refs_eq (c idx : Nat) :
    let s := run initV prog nColl nFlush rprogs sched
    s.sh.refs c idx = curRef (s.sh.hist c) idx + s.holders c idx :=
  (inv_run initV prog nColl nFlush rprogs sched).refs.refs c idx

/-- No rootDecRef ever finds `refs = 0`: every unpin is preceded by its pin. -/
theorem no_underflow : (run initV prog nColl nFlush rprogs sched).sh.underflow = false :=
  (inv_run initV prog nColl nFlush rprogs sched).refs.uf

/-- A pinned version has `refs ≥ 1` (until its unpin, which is the step that ends the pin).
By `Gkv.Versions.safe_reachable` no node of a version with `refs ≥ 1` is ever recycled. -/
theorem pinned_alive (c idx : Nat)
    (hp : 0 < (run initV prog nColl nFlush rprogs sched).holders c idx) :
    1 ≤ (run initV prog nColl nFlush rprogs sched).sh.refs c idx := by
  have := refs_eq initV prog nColl nFlush rprogs sched c idx
  simp only at this
  omega

/-- The current version always has `refs ≥ 1`. -/
theorem current_alive (c : Nat) :
    1 ≤ (run initV prog nColl nFlush rprogs sched).sh.refs c
      ((run initV prog nColl nFlush rprogs sched).sh.curIdx c) := by
  have h := inv_run initV prog nColl nFlush rprogs sched
  generalize run initV prog nColl nFlush rprogs sched = s at h ⊢
  have h1 := h.refs.refs c (s.sh.curIdx c)
  rw [curRef, if_pos (curIdx_succ (h.hist.hist_ne c))] at h1
  omega

end main

/-- which `(c, idx)` each thread state holds: a reader between its pin and its unpin -/
theorem reader_holds {s : State} {r : Reader} {i : Nat} (hr : s.rds[i]? = some r) {c idx : Nat}
    (hpc : (∃ t0 tp, r.pc = .pinned c t0 tp idx) ∨ (∃ t0 tp res, r.pc = .got c t0 tp idx res)) :
    0 < s.holders c idx := by
  have h2 : r.pins c idx = 1 := by
    rcases hpc with ⟨t0, tp, e⟩ | ⟨t0, tp, res, e⟩ <;> simp [Reader.pins, e, one_self]
  have h1 : 0 < (s.rds.map fun r : Reader => r.pins c idx).sum :=
    List.sum_pos_iff_exists_pos_nat.2
      ⟨_, List.mem_map_of_mem (List.mem_of_getElem? hr), h2 ▸ Nat.one_pos⟩
  unfold State.holders
  omega

/-- the mutator between its pin and its unpin -/
theorem mut_holds {s : State} {c idx : Nat}
    (hpc : (∃ f, s.mu.pc = .pinned c f idx) ∨ (∃ v, s.mu.pc = .built c idx v) ∨
      s.mu.pc = .casDone c idx) : 0 < s.holders c idx := by
  have h2 : s.mu.pins c idx = 1 := by
    rcases hpc with ⟨f, e⟩ | ⟨v, e⟩ | e <;> simp [Mut.pins, e, one_self]
  unfold State.holders
  omega

theorem pinCount_pos {l : List Pin} {p : Pin} (hp : p ∈ l) : 0 < pinCount l p.c p.idx := by
  induction l with
  | nil => cases hp
  | cons a l ih =>
    rw [pinCount_cons]
    rcases List.mem_cons.1 hp with rfl | hp
    · rw [one_self]; omega
    · have := ih hp; omega

/-- the flusher: every pin taken and not yet released -/
theorem flusher_holds {s : State} {p : Pin}
    (hpc : (∃ t0 pins, s.fl.pc = .pinning t0 pins ∧ p ∈ pins) ∨
      (∃ t0 pins vals rest, s.fl.pc = .unpinning t0 pins vals rest ∧ p ∈ rest)) :
    0 < s.holders p.c p.idx := by
  have h2 : 0 < s.fl.pins p.c p.idx := by
    rcases hpc with ⟨t0, pins, e, hm⟩ | ⟨t0, pins, vals, rest, e, hm⟩ <;>
      simp only [Flusher.pins, e] <;> exact pinCount_pos hm
  unfold State.holders
  omega

/-! Each thread kind: a finished thread has no step; any other program counter has one, to a state
of smaller measure (read off `measure`), at the same clock value. -/

theorem rd_progress (sh : Shared) (r : Reader) :
    (r.finished = true ∧ rdStep sh r = none) ∨
    (r.finished = false ∧ ∃ sh' r', rdStep sh r = some (sh', r') ∧ r'.measure < r.measure ∧
      sh'.now = sh.now) := by
  obtain ⟨prog, pc, log⟩ := r
  cases pc with
  | idle =>
    cases prog with
    | nil => exact .inl ⟨rfl, rfl⟩
    | cons c rest => exact .inr ⟨rfl, _, _, rfl, Nat.lt_succ_self _, rfl⟩
  | _ => exact .inr ⟨rfl, _, _, rfl, Nat.lt_succ_self _, rfl⟩

theorem mut_progress (sh : Shared) (m : Mut) :
    (m.finished = true ∧ mutStep sh m = none) ∨
    (m.finished = false ∧ ∃ sh' m', mutStep sh m = some (sh', m') ∧ m'.measure < m.measure ∧
      sh'.now = sh.now) := by
  obtain ⟨prog, ncas, pc, lost⟩ := m
  cases pc with
  | idle =>
    unfold Mut.finished mutStep
    dsimp only
    split
    · next hp => exact .inl ⟨decide_eq_true (List.getElem?_eq_none_iff.1 hp), rfl⟩
    · next c f hp =>
      have hlt := (List.getElem?_eq_some_iff.1 hp).1
      -- `4 * d' + 3 < 4 * (d' + 1) ≤ 4 * d` for `d' < d`
      exact .inr ⟨decide_eq_false (Nat.not_le_of_lt hlt), _, _, rfl, Nat.lt_of_lt_of_le
        (Nat.lt_succ_self _) (Nat.mul_le_mul_left 4 (Nat.sub_succ_lt_self prog.length ncas hlt)), rfl⟩
  | built c idx v =>
    by_cases h : idx + 1 = (sh.hist c).length
    · exact .inr ⟨rfl, _, _, if_pos h, Nat.lt_succ_self _, rfl⟩
    · exact .inr ⟨rfl, _, _, if_neg h, Nat.lt_succ_self _, rfl⟩
  | _ => exact .inr ⟨rfl, _, _, rfl, Nat.lt_succ_self _, rfl⟩

theorem fl_progress (n : Nat) (sh : Shared) (f : Flusher) :
    (f.finished = true ∧ flStep n sh f = none) ∨
    (f.finished = false ∧ ∃ sh' f', flStep n sh f = some (sh', f') ∧ f'.measure n < f.measure n ∧
      sh'.now = sh.now) := by
  obtain ⟨todo, pc, log⟩ := f
  cases pc with
  | idle =>
    cases todo with
    | zero => exact .inl ⟨rfl, rfl⟩
    | succ k =>
      -- a Flush not yet started counts `2 * n + 3` steps, and `2 * n + 2` once started
      exact .inr ⟨rfl, _, _, rfl, Nat.lt_of_lt_of_eq (Nat.add_lt_add_left (Nat.lt_succ_self _) _)
        (Nat.succ_mul k _).symm, rfl⟩
  | pinning t0 pins =>
    by_cases hlt : pins.length < n
    · exact .inr ⟨rfl, _, _, if_pos hlt, by
        simp only [Flusher.measure, List.length_append, List.length_singleton]; omega, rfl⟩
    · -- `len + 1 < 2 * (n - len) + len + 2`
      exact .inr ⟨rfl, _, _, if_neg hlt,
        Nat.add_lt_add_left (Nat.succ_lt_succ (Nat.lt_succ_of_le (Nat.le_add_left ..))) _, rfl⟩
  | unpinning t0 pins vals rest =>
    cases rest <;> exact .inr ⟨rfl, _, _, rfl, Nat.lt_succ_self _, rfl⟩

/-- No step ever blocks: a step of a finished (or unknown) thread is a no-op; a step of any
thread that has not finished its program is enabled, advances the clock, and strictly decreases the
number of remaining steps. -/
theorem progress (s : State) (tid : Nat) :
    (s.finished tid = true ∧ step s tid = s) ∨
    (s.finished tid = false ∧ (step s tid).measure < s.measure ∧
      (step s tid).sh.now = s.sh.now + 1) := by
  unfold State.finished step
  split
  · rcases mut_progress s.sh.tick s.mu with ⟨hf, hs⟩ | ⟨hf, sh', m', hs, hm, hn⟩ <;> rw [hs]
    · exact .inl ⟨hf, rfl⟩
    · exact .inr ⟨hf, by simp only [State.measure]; omega, hn⟩
  · rcases fl_progress s.nColl s.sh.tick s.fl with ⟨hf, hs⟩ | ⟨hf, sh', f', hs, hm, hn⟩ <;> rw [hs]
    · exact .inl ⟨hf, rfl⟩
    · exact .inr ⟨hf, by simp only [State.measure]; omega, hn⟩
  · next i =>
    cases hr : s.rds[i]? with
    | none => exact .inl ⟨rfl, rfl⟩
    | some r =>
      dsimp only
      rcases rd_progress s.sh.tick r with ⟨hf, hs⟩ | ⟨hf, sh', r', hs, hm, hn⟩ <;> rw [hs]
      · exact .inl ⟨hf, rfl⟩
      · have := sum_map_set Reader.measure hr r'
        exact .inr ⟨hf, by simp only [State.measure]; omega, hn⟩

/-- a pass over the threads of `sched` finds each finished at its turn and changes nothing, or it
makes progress -/
theorem exec_pass (s : State) (sched : List Nat) :
    (exec s sched = s ∧ ∀ tid ∈ sched, s.finished tid = true) ∨ (exec s sched).measure < s.measure := by
  induction sched generalizing s with
  | nil => exact .inl ⟨rfl, nofun⟩
  | cons t l ih =>
    show (exec (step s t) l = s ∧ _) ∨ (exec (step s t) l).measure < _
    rcases progress s t with ⟨hf, h⟩ | ⟨_, h, _⟩
    · rw [h]
      exact (ih s).imp_left fun h' => ⟨h'.1, List.forall_mem_cons.2 ⟨hf, h'.2⟩⟩
    · exact .inr ((ih (step s t)).elim (fun h' => h'.1.symm ▸ h) (Nat.lt_trans · h))

theorem exec_measure_le (s : State) (sched : List Nat) : (exec s sched).measure ≤ s.measure :=
  (exec_pass s sched).elim (fun h => Nat.le_of_eq (congrArg _ h.1)) Nat.le_of_lt

theorem exec_append (s : State) (a b : List Nat) : exec s (a ++ b) = exec (exec s a) b := by
  simp [exec, List.foldl_append]

theorem nThreads_step (s : State) (tid : Nat) : (step s tid).nThreads = s.nThreads := by
  unfold step State.nThreads
  split
  · split <;> rfl
  · split <;> rfl
  · split
    · rfl
    · split
      · rfl
      · simp

theorem nThreads_exec (s : State) (sched : List Nat) : (exec s sched).nThreads = s.nThreads :=
  List.foldlRecOn (motive := (·.nThreads = s.nThreads)) sched step rfl
    fun s' h t _ => (nThreads_step s' t).trans h

theorem finished_of_ge (s : State) {tid : Nat} (h : s.nThreads ≤ tid) : s.finished tid = true := by
  unfold State.nThreads at h
  unfold State.finished
  split
  · omega
  · omega
  · rename_i i
    rw [List.getElem?_eq_none (by omega)]

/-- No deadlock: in every state in which some thread has not finished, some thread (one of the
`nThreads` existing ones) can take a step that makes progress. -/
theorem no_deadlock (s : State) (h : ¬ s.allFinished) :
    ∃ tid, tid < s.nThreads ∧ s.finished tid = false ∧ (step s tid).measure < s.measure := by
  obtain ⟨tid, ht⟩ := Classical.not_forall.1 h
  have hf : s.finished tid = false := by simpa using ht
  refine ⟨tid, ?_, hf, ?_⟩
  · rcases Nat.lt_or_ge tid s.nThreads with h' | h'
    · exact h'
    · rw [finished_of_ge s h'] at hf; cases hf
  · rcases progress s tid with ⟨h', _⟩ | ⟨_, h', _⟩
    · rw [hf] at h'; cases h'
    · exact h'

/-- the measure counts real work: when it is zero everything is finished -/
theorem allFinished_of_measure_zero (s : State) (h : s.measure = 0) : s.allFinished := by
  intro tid
  rcases progress s tid with ⟨h', _⟩ | ⟨_, h', _⟩
  · exact h'
  · omega

theorem exec_of_allFinished (s : State) (h : s.allFinished) (sched : List Nat) : exec s sched = s :=
  List.foldlRecOn (motive := (· = s)) sched step rfl fun s' hs t _ => by
    subst hs
    rcases progress s' t with ⟨_, h'⟩ | ⟨h', _⟩
    · exact h'
    · rw [h t] at h'; cases h'

theorem round_progress (s : State) (round : List Nat) (hall : ∀ tid, tid < s.nThreads → tid ∈ round)
    (h : ¬ s.allFinished) : (exec s round).measure < s.measure :=
  (exec_pass s round).resolve_left fun hf => h fun tid =>
    if ht : tid < s.nThreads then hf.2 tid (hall tid ht) else finished_of_ge s (Nat.le_of_not_lt ht)

/-- Every fair schedule finishes: a schedule made of at least `measure s` rounds, each of which
schedules every thread at least once (in any order, with any repetitions and any unknown ids),
leads to a state in which all threads have completed their programs. -/
theorem fair_finishes (rounds : List (List Nat)) (s : State)
    (hall : ∀ round ∈ rounds, ∀ tid, tid < s.nThreads → tid ∈ round)
    (hlen : s.measure ≤ rounds.length) : (exec s rounds.flatten).allFinished := by
  induction rounds generalizing s with
  | nil =>
    simp only [List.length_nil, Nat.le_zero_eq] at hlen
    exact allFinished_of_measure_zero s hlen
  | cons r rs ih =>
    rw [List.flatten_cons, exec_append]
    by_cases hfin : s.allFinished
    · rw [exec_of_allFinished s hfin, exec_of_allFinished s hfin]; exact hfin
    · have hlt := round_progress s r (hall r List.mem_cons_self) hfin
      apply ih
      · intro round hr tid ht
        rw [nThreads_exec] at ht
        exact hall round (List.mem_cons_of_mem _ hr) tid ht
      · simp only [List.length_cons] at hlen
        omega

/-- In particular the round-robin schedule finishes every program. -/
theorem round_robin_finishes (s : State) :
    (exec s (List.replicate s.measure (List.range s.nThreads)).flatten).allFinished := by
  apply fair_finishes
  · intro round hr tid ht
    rw [(List.mem_replicate.1 hr).2]
    exact List.mem_range.2 ht
  · simp

/-! ## Non-vacuity: a concrete run

Two collections (initial contents 0 and 1), the mutator program `c0 += 1 ; c1 += 10 ; c0 *= 2`,
two readers (reader 0 reads collection 0, reader 1 reads collection 1) and one Flush.
In the schedule below reader 0 (thread 2) starts and pins version 0 of collection 0 at time 2, the
mutator then publishes version 1 of collection 0 at time 5, the flusher pins collection 0
(version 1, time 7) and collection 1 (version 0, time 9), and only at time 11 reader 0 reads: it
returns the content 0 of the old version 0 although version 1 (content 1) has existed since time 5.
Collection 1 changes (time 16) after the Flush captured it but before the Flush ends (time 29). -/

namespace Example

def prog : List Op := [(0, (· + 1)), (1, (· + 10)), (0, (· * 2))]
def sched : List Nat :=
  [2, 2, 0, 0, 0, 1, 1, 0, 1, 1, 2, 2, 2, 0, 0, 0, 0, 3, 3, 3, 3, 3, 0, 0, 0, 0, 1, 1, 1, 1, 0]
def final : State := run (fun c => c) prog 2 1 [[0], [1]] sched

-- the histories: contents and publication times
example : final.sh.hist 0 = [⟨0, 0⟩, ⟨1, 5⟩, ⟨2, 25⟩] := by decide
example : final.sh.hist 1 = [⟨1, 0⟩, ⟨11, 16⟩] := by decide
-- reader 0 returned the old version 0 (content 0) at a time (11..13) when version 1 existed (since 5)
example : final.rds.map (·.log) =
    [[⟨0, 1, 2, 0, 0, 13⟩], [⟨1, 18, 19, 1, 11, 22⟩]] := by decide
-- halfway: reader 0 still holds its pin on version 0 while version 1 is already current,
-- and version 0 is kept alive by that pin alone (refs = 1), version 1 has the current reference
-- plus the flusher's pin
example : let s := run (fun c => c) prog 2 1 [[0], [1]] (sched.take 10)
    (s.sh.hist 0).length = 2 ∧ s.holders 0 0 = 1 ∧ s.sh.refs 0 0 = 1 ∧ s.sh.refs 0 1 = 2 := by
  decide
-- the Flush persisted (c0 = 1, c1 = 1): version 1 of c0 (pinned at 7), version 0 of c1 (pinned at 9)
example : final.fl.log = [⟨6, [⟨0, 7, 1⟩, ⟨1, 9, 0⟩], [1, 1], 29⟩] := by decide
-- no lost update, no underflow, everything finished, final reference counts
example : final.mu.lost = false ∧ final.sh.underflow = false ∧ final.mu.ncas = 3 ∧
    final.measure = 0 := by decide
example : (List.range 3).map (final.sh.refs 0) = [0, 0, 1] ∧
    (List.range 2).map (final.sh.refs 1) = [0, 1] := by decide
-- trace validation data
example : (List.range 4).map (fun k => (worldAt (fun c => c) prog k 0, worldAt (fun c => c) prog k 1))
    = [(0, 1), (1, 1), (1, 11), (2, 11)] := by decide
example : curAt (final.sh.hist 0) 7 = 1 ∧ curAt (final.sh.hist 1) 7 = 0 ∧
    curAt (final.sh.hist 1) 20 = 1 := by decide

end Example

end Gkv.Conc

section
open Gkv.Conc
#print axioms inv_run
#print axioms cas_never_fails
#print axioms no_lost_update
#print axioms hist_worldAt
#print axioms final_contents
#print axioms read_one_version
#print axioms read_worldAt
#print axioms flush_versions
#print axioms flush_order
#print axioms refs_eq
#print axioms no_underflow
#print axioms pinned_alive
#print axioms current_alive
#print axioms reader_holds
#print axioms mut_holds
#print axioms flusher_holds
#print axioms progress
#print axioms no_deadlock
#print axioms allFinished_of_measure_zero
#print axioms round_progress
#print axioms fair_finishes
#print axioms round_robin_finishes
#print axioms curAt_eq
#print axioms curAt_mono
end
