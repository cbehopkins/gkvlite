/-
Model L (`Model/Cache.lean`): the lazily loaded view refines the abstract tree.

`Rep c T`: the cached view `c` is a view of the abstract tree `T` (what is cached equals what `T`
holds; what is not cached names the location `T` records).  Over a file on which `T` is coherent
(`Tree.Coherent`, the invariant Flush establishes and the mutators keep), every lazy operation
  * succeeds,
  * returns what the abstract operation of Model A returns on `T`,
  * leaves a view of the same `T`,
  * and reads only node records of `T` and — unless the value was asked for — header+key ranges
    of item records of `T`.
-/
import Gkv.Model.Cache
import Gkv.Proofs.FlushCoherent
import Gkv.Proofs.Lazy

namespace Gkv.Cache
open Gkv Gkv.Lazy Gkv.Tree

/-- the cached item slot is a view of item `i` whose location in `T` is `q`: a stub or a key-only
    copy names `q`; what is cached equals `i` (a dirty item, `loc = none`, only when `q = none`) -/
def RepItem : CItem → Item → Option Ploc → Prop
  | .stub loc, _, q => q = some loc
  | .keyOnly k p loc, i, q => q = some loc ∧ k = i.key ∧ p = i.prio
  | .full i' loc, i, q => i' = i ∧ loc = q

/-- `Rep c T`: a stub carries the location recorded in `T`'s root node; a cached node carries that
    node's aggregates and location, and its children and item are views of `T`'s; the empty slot
    is a view of `nil` only -/
def Rep : CTree → Tree → Prop
  | .nil, .nil => True
  | .stub loc, .node _ _ _ _ _ p _ => p = some loc
  | .node cl ci nn nb cr cp, .node l i a b r p q =>
    nn = a ∧ nb = b ∧ cp = p ∧ Rep cl l ∧ Rep cr r ∧ RepItem ci i q
  | _, _ => False

/-- the reads a traversal of `T` may issue: the record of a located node; header and key of a
    located item; with `wv` also the value of a located item -/
inductive Allowed (wv : Bool) : Tree → Rd → Prop
  | nodeRd {l i a b r loc q} : Allowed wv (.node l i a b r (some loc) q) (Rd.read loc.off nodeRecLen)
  | itemRd {l i a b r p il rd} (h : rd ∈ itemReads il i.key.length i.val.length false) :
      Allowed wv (.node l i a b r p (some il)) rd
  | valRd {l i a b r p il rd} (hw : wv = true) (h : rd ∈ itemReads il i.key.length i.val.length true) :
      Allowed wv (.node l i a b r p (some il)) rd
  | left {l i a b r p q rd} (h : Allowed wv l rd) : Allowed wv (.node l i a b r p q) rd
  | right {l i a b r p q rd} (h : Allowed wv r rd) : Allowed wv (.node l i a b r p q) rd

theorem rep_cold : ∀ (t : Tree), t.Persisted → Rep (cold t) t
  | .nil, _ => trivial
  | .node _ _ _ _ _ (some loc) _, _ => by show some loc = some loc; rfl
  | .node _ _ _ _ _ none _, h => by cases h

theorem rep_ofTree : ∀ (t : Tree), Rep (ofTree t) t
  | .nil => trivial
  | .node l _ _ _ r _ _ => ⟨rfl, rfl, rfl, rep_ofTree l, rep_ofTree r, rfl, rfl⟩

theorem rep_nil_left {T : Tree} (h : Rep .nil T) : T = .nil := by
  cases T with
  | nil => rfl
  | node _ _ _ _ _ _ _ => cases h

theorem rep_nil_right {c : CTree} (h : Rep c .nil) : c = .nil := by
  cases c with
  | nil => rfl
  | stub _ => cases h
  | node _ _ _ _ _ _ => cases h

theorem Allowed.imp {T : Tree} {rd : Rd} {wv wv' : Bool} (hw : wv = true → wv' = true)
    (h : Allowed wv T rd) : Allowed wv' T rd := by
  induction h with
  | nodeRd => exact .nodeRd
  | itemRd h => exact .itemRd h
  | valRd hw' h => exact .valRd (hw hw') h
  | left _ ih => exact .left ih
  | right _ ih => exact .right ih

theorem Allowed.mono {T : Tree} {rd : Rd} {wv : Bool} (h : Allowed false T rd) : Allowed wv T rd :=
  h.imp (wv := false) nofun

theorem decItemKey_of_decItem (f : Bytes) (loc : Ploc) (i : Item) (h : decItem f loc = some i) :
    decItemKey f loc = some (i.key, i.prio, i.val.length) := by
  obtain ⟨h0, hd, r1, e1, e2, e3, e4, r2, _⟩ := (decItem_eq_some f loc i).mp h
  unfold decItemKey
  simp only [bind, Option.bind]
  rw [if_neg h0, r1]
  dsimp only
  rw [e1, e2, e3, e4, if_neg (not_not_intro rfl), r2]

/-! ### every traversal arrives at a node the same way: `nodeLoc.read`, then `itemLoc.read` -/

theorem loadNode_rep {f : Bytes} {bound : Nat} {c : CTree} {l r : Tree} {i : Item} {a b : Nat}
    {p q : Option Ploc} (hc : (Tree.node l i a b r p q).Coherent f bound)
    (hr : Rep c (.node l i a b r p q)) :
    ∃ cl ci cr rds, loadNode f c = some (.node cl ci a b cr p, rds) ∧ Rep cl l ∧ Rep cr r ∧
      RepItem ci i q ∧ ∀ wv, ∀ rd ∈ rds, Allowed wv (.node l i a b r p q) rd := by
  cases c with
  | nil => cases hr
  | node cl ci nn nb cr cp =>
    obtain ⟨rfl, rfl, rfl, hl, hr, hi⟩ := hr
    exact ⟨cl, ci, cr, [], rfl, hl, hr, hi, fun _ _ h => nomatch h⟩
  | stub loc =>
    cases (hr : p = some loc)
    -- `Coherent` of a node is `l.Coherent ∧ r.Coherent ∧ (item: ∀ il, q = some il → ItemAt …) ∧
    -- (node: ∀ loc, p = some loc → NodeAt … ∧ q.isSome ∧ l.Persisted ∧ r.Persisted)`; here and
    -- below `hc.1`, `hc.2.1`, `hc.2.2.1`, `hc.2.2.2` are these four
    obtain ⟨⟨_, _, hn⟩, hq, hpl, hpr⟩ := hc.2.2.2 loc rfl
    obtain ⟨il, rfl⟩ := Option.isSome_iff_exists.mp hq
    refine ⟨_, .stub il, _, nodeReads loc, by simp only [loadNode, hn, bind, Option.bind, cold],
      rep_cold l hpl, rep_cold r hpr, rfl, fun _ rd hrd => ?_⟩
    cases List.mem_singleton.mp hrd
    exact Allowed.nodeRd

/-- what `loadItem` leaves: a view of the same item, showing its key and priority, its value when
    asked for, never a wrong value -/
def Shows (ci : CItem) (i : Item) (wv : Bool) : Prop :=
  ∃ v, ci.found = some ⟨i.key, i.prio, v⟩ ∧ (wv = true → v = some i.val) ∧ (v = none ∨ v = some i.val)

theorem shows_mono {ci : CItem} {i : Item} (h : Shows ci i true) : Shows ci i false := by
  obtain ⟨v, h1, _, h3⟩ := h
  exact ⟨v, h1, (fun h => by cases h), h3⟩

theorem itemReads_false_sub (il : Ploc) (kl vl : Nat) (rd : Rd)
    (h : rd ∈ itemReads il kl vl false) : rd ∈ itemReads il kl vl true := by
  rw [withvalue_reads]
  exact List.mem_append_left _ h

theorem loadAt_rep {f : Bytes} {bound : Nat} (wv : Bool) {i : Item} {il : Ploc}
    (hi : ItemAt f bound i il) :
    ∃ ci', loadAt f wv il = some (ci', itemReads il i.key.length i.val.length wv) ∧
      RepItem ci' i (some il) ∧ Shows ci' i wv := by
  obtain ⟨_, _, hd⟩ := hi
  cases wv with
  | true =>
    exact ⟨.full i (some il), by simp only [loadAt, hd, bind, Option.bind, ite_true],
      ⟨rfl, rfl⟩, some i.val, rfl, fun _ => rfl, Or.inr rfl⟩
  | false =>
    refine ⟨.keyOnly i.key i.prio il, ?_, ⟨rfl, rfl, rfl⟩, none, rfl, nofun, Or.inl rfl⟩
    simp only [loadAt, decItemKey_of_decItem f il i hd, bind, Option.bind]
    rfl

theorem allowed_itemReads {l r : Tree} {i : Item} {a b : Nat} {p : Option Ploc} {il : Ploc}
    {wv wv' : Bool} {rd : Rd} (hw : wv = true → wv' = true)
    (h : rd ∈ itemReads il i.key.length i.val.length wv) :
    Allowed wv' (.node l i a b r p (some il)) rd := by
  cases wv with
  | false => exact .itemRd h
  | true => exact .valRd (hw rfl) h

theorem loadItem_rep {f : Bytes} {bound : Nat} (wv : Bool) {ci : CItem} {i : Item} {q : Option Ploc}
    (hi : ∀ il, q = some il → ItemAt f bound i il) (hr : RepItem ci i q) :
    ∃ ci' rds, loadItem f wv ci = some (ci', rds) ∧ RepItem ci' i q ∧ Shows ci' i wv ∧
      ∀ {l r a b p wv'}, (wv = true → wv' = true) →
        ∀ rd ∈ rds, Allowed wv' (.node l i a b r p q) rd := by
  cases ci with
  | full i' loc =>
    obtain ⟨rfl, rfl⟩ := hr
    exact ⟨_, [], rfl, ⟨rfl, rfl⟩, ⟨some i'.val, rfl, fun _ => rfl, Or.inr rfl⟩, fun _ _ h => nomatch h⟩
  | keyOnly k p loc =>
    obtain ⟨rfl, rfl, rfl⟩ := hr
    cases wv with
    | false => exact ⟨_, [], rfl, ⟨rfl, rfl, rfl⟩, ⟨none, rfl, nofun, Or.inl rfl⟩, fun _ _ h => nomatch h⟩
    | true =>
      obtain ⟨ci', e, hr', hs⟩ := loadAt_rep true (hi loc rfl)
      exact ⟨ci', _, e, hr', hs, fun hw _ h => allowed_itemReads hw h⟩
  | stub loc =>
    cases (hr : q = some loc)
    obtain ⟨ci', e, hr', hs⟩ := loadAt_rep wv (hi loc rfl)
    exact ⟨ci', _, e, hr', hs, fun hw _ h => allowed_itemReads hw h⟩

/-- a `Found` shows the item `i` (value present when asked for, never a wrong one) -/
def Agrees (res : Option Found) (o : Option Item) (wv : Bool) : Prop :=
  match res, o with
  | none, none => True
  | some fd, some i => fd.key = i.key ∧ fd.prio = i.prio ∧ (wv = true → fd.val = some i.val) ∧
      (fd.val = none ∨ fd.val = some i.val)
  | _, _ => False

theorem agrees_of_shows {ci : CItem} {i : Item} {wv : Bool} (h : Shows ci i wv) :
    Agrees ci.found (some i) wv := by
  obtain ⟨v, h1, h2, h3⟩ := h
  rw [h1]
  exact ⟨rfl, rfl, h2, h3⟩

theorem height_lt {l r : Tree} {i : Item} {a b n : Nat} {p q : Option Ploc}
    (h : (Tree.node l i a b r p q).height < n + 1) : l.height < n ∧ r.height < n := by
  simp only [Tree.height] at h
  omega

theorem getC_spec (f : Bytes) (bound : Nat) (cmp : Bytes → Bytes → Ordering) (wv : Bool) (k : Bytes) :
    ∀ (fuel : Nat) (c : CTree) (T : Tree), T.Coherent f bound → Rep c T → T.height < fuel →
    ∃ res c' rds, getC f cmp wv fuel c k = some (res, c', rds) ∧ Rep c' T ∧
      Agrees res (Tree.get cmp T k) wv ∧ ∀ rd ∈ rds, Allowed wv T rd := by
  intro fuel
  induction fuel with
  | zero => intro c T _ _ h; cases h
  | succ fuel ih =>
    intro c T hc hr hf
    cases T with
    | nil => cases rep_nil_right hr; exact ⟨none, .nil, [], rfl, trivial, trivial, nofun⟩
    | node l i a b r p q =>
      obtain ⟨cl, ci, cr, r1, e1, hl, hr, hi, h1⟩ := loadNode_rep hc hr
      obtain ⟨ci1, r2, e2, hi1, ⟨v, hv, -, hv'⟩, h2⟩ := loadItem_rep false hc.2.2.1 hi
      have h12 : ∀ rd ∈ r1 ++ r2, Allowed wv (.node l i a b r p q) rd :=
        List.forall_mem_append.2 ⟨h1 wv, h2 nofun⟩
      rw [getC, Tree.get, e1]
      simp only [e2, hv, bind, Option.bind]
      cases cmp k i.key with
      | lt =>
        obtain ⟨res, l', r3, e3, hl', hag, h3⟩ := ih cl l hc.1 hl (height_lt hf).1
        rw [e3]
        exact ⟨_, _, _, rfl, ⟨rfl, rfl, rfl, hl', hr, hi1⟩, hag,
          List.forall_mem_append.2 ⟨h12, fun rd h => .left (h3 rd h)⟩⟩
      | gt =>
        obtain ⟨res, r', r3, e3, hr', hag, h3⟩ := ih cr r hc.2.1 hr (height_lt hf).2
        rw [e3]
        exact ⟨_, _, _, rfl, ⟨rfl, rfl, rfl, hl, hr', hi1⟩, hag,
          List.forall_mem_append.2 ⟨h12, fun rd h => .right (h3 rd h)⟩⟩
      | eq =>
        cases wv with
        | false =>
          exact ⟨_, _, _, rfl, ⟨rfl, rfl, rfl, hl, hr, hi1⟩, ⟨rfl, rfl, nofun, hv'⟩,
            by rwa [List.append_nil]⟩
        | true =>
          obtain ⟨ci2, r3, e3, hi2, hs, h3⟩ := loadItem_rep true hc.2.2.1 hi1
          rw [e3]
          exact ⟨_, _, _, rfl, ⟨rfl, rfl, rfl, hl, hr, hi2⟩, agrees_of_shows hs,
            List.forall_mem_append.2 ⟨h12, h3 id⟩⟩

/-- what holds of both children holds of the near and of the far one, whichever way one goes -/
theorem ite_both {α β : Type} {R : α → β → Prop} (b : Bool) {x y : α} {u v : β}
    (h₁ : R x u) (h₂ : R y v) :
    R (if b then x else y) (if b then u else v) ∧ R (if b then y else x) (if b then v else u) := by
  cases b <;> exact ⟨‹_›, ‹_›⟩

/-- Model A's `MinItem`/`MaxItem` at a node, in the words of `walk`: the node's own item when there
    is no child on the chosen side, else that child's answer -/
theorem absWalk_node {left : Bool} {l r : Tree} {i : Item} {a b : Nat} {p q : Option Ploc} :
    (if left then Tree.min (.node l i a b r p q) else Tree.max (.node l i a b r p q)) =
      match (if left then l else r) with
      | .nil => some i
      | n => if left then n.min else n.max := by
  cases left
  · cases r <;> rfl
  · cases l <;> rfl

theorem walkC_spec (f : Bytes) (bound : Nat) (left wv : Bool) :
    ∀ (fuel : Nat) (c : CTree) (T : Tree), T.Coherent f bound → Rep c T → T.height < fuel →
    ∃ res c' rds, walkC f left wv fuel c = some (res, c', rds) ∧ Rep c' T ∧
      Agrees res (if left then Tree.min T else Tree.max T) wv ∧ ∀ rd ∈ rds, Allowed wv T rd := by
  intro fuel
  induction fuel with
  | zero => intro _ _ _ _ h; cases h
  | succ fuel ih =>
    intro c T hc hrep hf
    cases T with
    | nil =>
      cases rep_nil_right hrep
      exact ⟨none, .nil, [], rfl, trivial, by cases left <;> trivial, nofun⟩
    | node l i a b r p q =>
      obtain ⟨cl, ci, cr, r1, e1, hl, hr, hi, h1⟩ := loadNode_rep hc hrep
      -- the child on the side `left` chooses, with its view
      obtain ⟨hrN, hcN, hhN, hAN⟩ :=
        (ite_both (R := fun c t => Rep c t ∧ t.Coherent f bound ∧ t.height < fuel ∧
            ∀ rd, Allowed wv t rd → Allowed wv (.node l i a b r p q) rd) left
          ⟨hl, hc.1, (height_lt hf).1, fun _ => .left⟩ ⟨hr, hc.2.1, (height_lt hf).2, fun _ => .right⟩).1
      rw [walkC, absWalk_node, e1]
      dsimp only [bind, Option.bind]
      -- `walkC` looks at the view of the child, Model A at the child: one is empty iff the other is
      split
      next hN =>
        rw [hN] at hrN
        obtain ⟨ci1, r2, e2, hi1, hs, h2⟩ := loadItem_rep wv hc.2.2.1 hi
        rw [e2, rep_nil_left hrN]
        exact ⟨_, _, _, rfl, ⟨rfl, rfl, rfl, hl, hr, hi1⟩, agrees_of_shows hs,
          List.forall_mem_append.2 ⟨h1 wv, h2 id⟩⟩
      next hN =>
        obtain ⟨res, c', r2, e2, hr', hag, h2⟩ := ih _ _ hcN hrN hhN
        rw [e2]
        cases hT : (if left then l else r) with
        | nil => exact (hN (rep_nil_right (hT ▸ hrN))).elim
        | node _ _ _ _ _ _ _ =>
          rw [hT] at hag
          exact ⟨_, _, _, rfl, by cases left <;> exact ⟨rfl, rfl, rfl, ‹_›, ‹_›, ‹_›⟩, hag,
            List.forall_mem_append.2 ⟨h1 wv, fun rd h => hAN rd (h2 rd h)⟩⟩


theorem repItem_evict {ci : CItem} {i : Item} {q : Option Ploc} (h : RepItem ci i q) :
    RepItem ci.evict i q := by
  cases ci with
  | stub loc => exact h
  | keyOnly k p loc => exact h.1
  | full i' loc =>
    cases loc with
    | none => exact h
    | some l => exact h.2.symm

theorem evictC_spec (f : Bytes) (bound : Nat) :
    ∀ (choices : List Bool) (c : CTree) (T : Tree), T.Coherent f bound → Rep c T →
    ∃ c' rds, evictC f choices c = some (c', rds) ∧ Rep c' T ∧ ∀ wv, ∀ rd ∈ rds, Allowed wv T rd := by
  intro choices
  induction choices with
  | nil => intro c T _ hr; exact ⟨c, [], rfl, hr, fun _ => nofun⟩
  | cons ch cs ih =>
    intro c T hc hrep
    cases T with
    | nil => cases rep_nil_right hrep; exact ⟨.nil, [], rfl, trivial, fun _ => nofun⟩
    | node l i a b r p q =>
      obtain ⟨cl, ci, cr, r1, e1, hl, hr, hi, h1⟩ := loadNode_rep hc hrep
      rw [evictC, e1]
      dsimp only [bind, Option.bind]
      cases ch with
      | true =>
        obtain ⟨r', r2, e2, hr', h2⟩ := ih cr r hc.2.1 hr
        rw [if_pos rfl, e2]
        exact ⟨_, _, rfl, ⟨rfl, rfl, rfl, hl, hr', repItem_evict hi⟩,
          fun wv => List.forall_mem_append.2 ⟨h1 wv, fun rd h => .right (h2 wv rd h)⟩⟩
      | false =>
        obtain ⟨l', r2, e2, hl', h2⟩ := ih cl l hc.1 hl
        rw [if_neg Bool.false_ne_true, e2]
        exact ⟨_, _, rfl, ⟨rfl, rfl, rfl, hl', hr, repItem_evict hi⟩,
          fun wv => List.forall_mem_append.2 ⟨h1 wv, fun rd h => .left (h2 wv rd h)⟩⟩

/-- what the visitor saw agrees, item by item and depth by depth, with Model A's visit -/
def AgreeVisit (wv : Bool) : List (Found × Nat) → List (Item × Nat) → Prop
  | [], [] => True
  | (fd, d) :: xs, (i, d') :: ys => Agrees (some fd) (some i) wv ∧ d = d' ∧ AgreeVisit wv xs ys
  | _, _ => False

theorem agreeVisit_append {wv : Bool} : ∀ {xs : List (Found × Nat)} {xs' : List (Item × Nat)}
    {ys : List (Found × Nat)} {ys' : List (Item × Nat)},
    AgreeVisit wv xs xs' → AgreeVisit wv ys ys' → AgreeVisit wv (xs ++ ys) (xs' ++ ys')
  | [], [], _, _, _, h => h
  | [], _ :: _, _, _, h, _ => by cases h
  | _ :: _, [], _, _, h, _ => by cases h
  | (_, _) :: xs, (_, _) :: xs', _, _, h, h' =>
    ⟨h.1, h.2.1, agreeVisit_append (xs := xs) (xs' := xs') h.2.2 h'⟩

def absVisit (cmp : Bytes → Bytes → Ordering) (asc : Bool) (T : Tree) (tgt : Bytes) (d : Nat) :
    List (Item × Nat) :=
  if asc then Tree.visitAsc cmp T tgt d else Tree.visitDesc cmp T tgt d

theorem absVisit_nil {cmp : Bytes → Bytes → Ordering} {asc : Bool} {tgt : Bytes} {d : Nat} :
    absVisit cmp asc .nil tgt d = [] := by
  cases asc <;> rfl

/-- Model A's visit of a node, in the words of `visitNodes`: the near subtree, the item, the far
    subtree if the node is in range, else the far subtree only -/
theorem absVisit_node {cmp : Bytes → Bytes → Ordering} {asc : Bool} {l r : Tree} {i : Item}
    {a b : Nat} {p q : Option Ploc} {tgt : Bytes} {d : Nat} :
    absVisit cmp asc (.node l i a b r p q) tgt d =
      if (if asc then cmp tgt i.key != .gt else cmp tgt i.key == .gt) then
        absVisit cmp asc (if asc then l else r) tgt (d+1) ++
          (i, d) :: absVisit cmp asc (if asc then r else l) tgt (d+1)
      else absVisit cmp asc (if asc then r else l) tgt (d+1) := by
  cases asc <;> cases h : cmp tgt i.key <;> simp [absVisit, Tree.visitAsc, Tree.visitDesc, h]

/-- One induction for both visits.  `visitCK` with any budget `b` (0 too: nothing is delivered)
    hands over the first `b` items of Model A's sequence and returns `b - length`; and whenever
    budget is left it has done exactly what `visitC`, the visit that never stops, does. -/
theorem visit_spec (f : Bytes) (bound : Nat) (cmp : Bytes → Bytes → Ordering) (asc wv : Bool)
    (tgt : Bytes) :
    ∀ (fuel : Nat) (c : CTree) (T : Tree) (d b : Nat), T.Coherent f bound → Rep c T →
      T.height < fuel →
    ∃ out b' c' rds, visitCK f cmp asc wv fuel c tgt d b = some (out, b', c', rds) ∧ Rep c' T ∧
      AgreeVisit wv out ((absVisit cmp asc T tgt d).take b) ∧
      b' = b - (absVisit cmp asc T tgt d).length ∧ (∀ rd ∈ rds, Allowed wv T rd) ∧
      (b' ≠ 0 → visitC f cmp asc wv fuel c tgt d = some (out, c', rds)) := by
  intro fuel
  induction fuel with
  | zero => intro c T _ _ _ _ h; cases h
  | succ fuel ih =>
    intro c T d b hc hrep hf
    cases T with
    | nil =>
      cases rep_nil_right hrep
      rw [absVisit_nil]
      exact ⟨[], b, .nil, [], rfl, trivial, by rw [List.take_nil]; trivial, rfl, nofun, fun _ => rfl⟩
    | node l i nn nb r p q =>
      obtain ⟨cl, ci, cr, r1, e1, hl, hr, hi, h1⟩ := loadNode_rep hc hrep
      obtain ⟨ci1, r2, e2, hi1, ⟨v1, hv1, -, -⟩, h2⟩ := loadItem_rep false hc.2.2.1 hi
      have h12 : ∀ rd ∈ r1 ++ r2, Allowed wv (.node l i nn nb r p q) rd :=
        List.forall_mem_append.2 ⟨h1 wv, h2 nofun⟩
      -- the near (`N`) and the far (`F`) child in visiting order, each with its view
      obtain ⟨⟨hrN, hcN, hhN, hAN⟩, hrF, hcF, hhF, hAF⟩ :=
        ite_both (R := fun c t => Rep c t ∧ t.Coherent f bound ∧ t.height < fuel ∧
            ∀ rd, Allowed wv t rd → Allowed wv (.node l i nn nb r p q) rd) asc
          ⟨hl, hc.1, (height_lt hf).1, fun _ => .left⟩ ⟨hr, hc.2.1, (height_lt hf).2, fun _ => .right⟩
      obtain ⟨ci2, r4, e4, hi2, ⟨v2, hv2, hv2a, hv2b⟩, h4⟩ := loadItem_rep wv hc.2.2.1 hi1
      -- `rw`/`dsimp only` in turns where one `simp only` would do: on a goal of this size that is
      -- a third of the work
      rw [visitCK, visitC, absVisit_node, e1]
      dsimp only [bind, Option.bind]
      rw [e2]
      dsimp only
      rw [hv1]
      dsimp only
      by_cases hch : (if asc then cmp tgt i.key != .gt else cmp tgt i.key == .gt) = true
      · obtain ⟨xs, b1, n', r3, e3, hrN', hagN, hb1, h3, hvN⟩ := ih _ _ (d+1) b hcN hrN hhN
        have hagI : Agrees (some ⟨i.key, i.prio, v2⟩) (some i) wv := ⟨rfl, rfl, hv2a, hv2b⟩
        have hi1e := repItem_evict hi1
        have hi2e := repItem_evict hi2
        have h123 : ∀ rd ∈ r1 ++ r2 ++ r3, Allowed wv (.node l i nn nb r p q) rd :=
          List.forall_mem_append.2 ⟨h12, fun rd h => hAN rd (h3 rd h)⟩
        -- `take b (LN ++ (i, d) :: LF) = take b LN ++ take b1 ((i, d) :: LF)` and
        -- `b - |LN ++ (i, d) :: LF| = b1 - (|LF| + 1)`: the budget `b1` left by the near subtree
        -- decides: stopped in there, stop at the node's own item, or go on
        rw [if_pos hch, if_pos hch, if_pos hch, e3, List.take_append, List.length_append,
          List.length_cons, Nat.sub_add_eq, ← hb1]
        dsimp only
        -- each `⟨rfl, rfl, rfl, ‹_›, ‹_›, ‹_›⟩` below is a `Rep` of the node, its children in the
        -- order `asc` puts them.  The assumptions found: for a child that was visited its new view
        -- (`hrN'`, `hrF'`), for one that was not — the far child after a stop, the near child of a
        -- node out of range — the old one (`hrF`, `hrN`); and the evicted item, `hi1e` when the
        -- item was not read a second time, else `hi2e`
        match b1, hb1 with
        | 0, _ =>
          exact ⟨_, _, _, _, rfl, by cases asc <;> exact ⟨rfl, rfl, rfl, ‹_›, ‹_›, ‹_›⟩,
            by rw [List.take_zero, List.append_nil]; exact hagN, (Nat.zero_sub _).symm, h123,
            fun h => absurd rfl h⟩
        | 1, _ =>
          rw [e4]
          dsimp only
          rw [hv2]
          exact ⟨_, _, _, _, rfl, by cases asc <;> exact ⟨rfl, rfl, rfl, ‹_›, ‹_›, ‹_›⟩,
            agreeVisit_append hagN ⟨hagI, rfl, trivial⟩,
            (Nat.sub_eq_zero_of_le (Nat.le_add_left 1 _)).symm,
            List.forall_mem_append.2 ⟨h123, h4 id⟩, fun h => absurd rfl h⟩
        | k+2, _ =>
          obtain ⟨ys, b2, f', r5, e5, hrF', hagF, hb2, h5, hvF⟩ := ih _ _ (d+1) (k+2-1) hcF hrF hhF
          rw [e4]
          dsimp only
          rw [hv2]
          dsimp only
          rw [if_neg (Nat.succ_ne_zero _), if_neg (Nat.succ_ne_succ_iff.2 (Nat.succ_ne_zero k)), e5]
          exact ⟨_, _, _, _, rfl, by cases asc <;> exact ⟨rfl, rfl, rfl, ‹_›, ‹_›, ‹_›⟩,
            agreeVisit_append hagN ⟨hagI, rfl, hagF⟩,
            hb2.trans (Nat.add_sub_add_right (k+1) 1 _).symm,
            List.forall_mem_append.2 ⟨List.forall_mem_append.2 ⟨h123, h4 id⟩, fun rd h => hAF rd (h5 rd h)⟩,
            fun h => by rw [hvN (Nat.succ_ne_zero _), hvF h]⟩
      · obtain ⟨ys, b2, f', r3, e3, hrF', hagF, hb2, h3, hvF⟩ := ih _ _ (d+1) b hcF hrF hhF
        have hi1e := repItem_evict hi1
        rw [if_neg hch, if_neg hch, if_neg hch, e3]
        exact ⟨_, _, _, _, rfl, by cases asc <;> exact ⟨rfl, rfl, rfl, ‹_›, ‹_›, ‹_›⟩, hagF, hb2,
          List.forall_mem_append.2 ⟨h12, fun rd h => hAF rd (h3 rd h)⟩, fun h => by rw [hvF h]⟩

theorem visitC_spec (f : Bytes) (bound : Nat) (cmp : Bytes → Bytes → Ordering) (asc wv : Bool)
    (tgt : Bytes) (fuel : Nat) (c : CTree) (T : Tree) (d : Nat) (hc : T.Coherent f bound)
    (hr : Rep c T) (hf : T.height < fuel) :
    ∃ out c' rds, visitC f cmp asc wv fuel c tgt d = some (out, c', rds) ∧ Rep c' T ∧
      AgreeVisit wv out (absVisit cmp asc T tgt d) ∧ ∀ rd ∈ rds, Allowed wv T rd := by
  obtain ⟨out, b', c', rds, -, h1, h2, h3, h4, h5⟩ :=
    visit_spec f bound cmp asc wv tgt fuel c T d ((absVisit cmp asc T tgt d).length + 1) hc hr hf
  -- a budget one above the length is not used up
  rw [List.take_of_length_le (Nat.le_succ _)] at h2
  exact ⟨out, c', rds, h5 (by omega), h1, h2, h4⟩

theorem stepC_spec (f : Bytes) (bound : Nat) (cmp : Bytes → Bytes → Ordering) (fuel : Nat)
    (c : CTree) (T : Tree) (hc : T.Coherent f bound) (hr : Rep c T) (hf : T.height < fuel) (op : COp) :
    ∃ res c' rds, stepC f cmp fuel c op = some (res, c', rds) ∧ Rep c' T ∧
      Agrees res (absOp cmp T op) op.wv ∧ ∀ rd ∈ rds, Allowed op.wv T rd := by
  cases op with
  | get k w => exact getC_spec f bound cmp w k fuel c T hc hr hf
  | min w => exact walkC_spec f bound true w fuel c T hc hr hf
  | max w => exact walkC_spec f bound false w fuel c T hc hr hf
  | evict ch =>
    obtain ⟨c', rds, e, h1, h2⟩ := evictC_spec f bound ch c T hc hr
    exact ⟨none, c', rds, by simp only [stepC, e, Option.map], h1, trivial, h2 false⟩

/-- every answer of a history agrees with Model A's answer on the one abstract tree -/
def AgreeAll (cmp : Bytes → Bytes → Ordering) (T : Tree) : List (Option Found) → List COp → Prop
  | [], [] => True
  | o :: os, op :: ops => Agrees o (absOp cmp T op) op.wv ∧ AgreeAll cmp T os ops
  | _, _ => False

/-- The last clause: the reads are allowed for every `wv` that each call's own `wv` implies —
    `true` for any history, `false` for one in which no call asked for a value. -/
theorem runC_spec (f : Bytes) (bound : Nat) (cmp : Bytes → Bytes → Ordering) (fuel : Nat) (T : Tree)
    (hc : T.Coherent f bound) (hf : T.height < fuel) :
    ∀ (ops : List COp) (c : CTree), Rep c T →
    ∃ outs c' rds, runC f cmp fuel ops c = some (outs, c', rds) ∧ Rep c' T ∧ AgreeAll cmp T outs ops ∧
      ∀ wv, (∀ op ∈ ops, op.wv = true → wv = true) → ∀ rd ∈ rds, Allowed wv T rd := by
  intro ops
  induction ops with
  | nil => intro c hr; exact ⟨[], c, [], rfl, hr, trivial, fun _ _ => nofun⟩
  | cons op ops ih =>
    intro c hr
    obtain ⟨o, c1, r1, e1, hr1, hag, h1⟩ := stepC_spec f bound cmp fuel c T hc hr hf op
    obtain ⟨os, c2, r2, e2, hr2, hags, h2⟩ := ih c1 hr1
    refine ⟨o :: os, c2, r1 ++ r2, by simp only [runC, e1, e2, bind, Option.bind], hr2, ⟨hag, hags⟩,
      fun wv hw => List.forall_mem_append.2 ⟨fun rd h => (h1 rd h).imp (hw op (List.mem_cons_self ..)),
        h2 wv fun op' h' => hw op' (List.mem_cons_of_mem _ h')⟩⟩

/-- `rng` overlaps no node record of `T` and no header+key range of an item record of `T` -/
def KeyDisjoint (rng : Nat × Nat) : Tree → Prop
  | .nil => True
  | .node l i _ _ r p q =>
    KeyDisjoint rng l ∧ KeyDisjoint rng r ∧
    (∀ loc, p = some loc → rng.1 + rng.2 ≤ loc.off ∨ loc.off + nodeRecLen ≤ rng.1) ∧
    (∀ il, q = some il → rng.1 + rng.2 ≤ il.off ∨ il.off + itemHdrLen + i.key.length ≤ rng.1)

theorem allowed_false_no_touch {T : Tree} {rd : Rd} (h : Allowed false T rd) (rng : Nat × Nat)
    (hd : KeyDisjoint rng T) : ¬ rd.touches rng := by
  induction h with
  | nodeRd =>
    exact node_reads_disjoint _ rng (hd.2.2.1 _ rfl) _ (by simp [nodeReads])
  | itemRd h =>
    exact keyonly_reads_disjoint _ _ _ rng (hd.2.2.2 _ rfl) _ h
  | valRd hw _ => cases hw
  | left _ ih => exact ih hd.1
  | right _ ih => exact ih hd.2.1

/-- the value bytes of an item of `T` are not in its own header+key range -/
theorem own_value_disjoint (il : Ploc) (kl vl : Nat) :
    (valueRange il kl vl).1 + (valueRange il kl vl).2 ≤ il.off ∨
      il.off + itemHdrLen + kl ≤ (valueRange il kl vl).1 := by
  right; unfold valueRange; simp

/-- an answer agrees with Model A's answer on the abstract tree -/
def AgreesOut (cmp : Bytes → Bytes → Ordering) (T : Tree) : COut → COp2 → Prop
  | .one o, .point op => Agrees o (absOp cmp T op) op.wv
  | .many l, .visit asc tgt wv 0 => AgreeVisit wv l (absVisit cmp asc T tgt 0)
  | .many l, .visit asc tgt wv (k+1) => AgreeVisit wv l ((absVisit cmp asc T tgt 0).take (k+1))
  | _, _ => False

def AgreeAll2 (cmp : Bytes → Bytes → Ordering) (T : Tree) : List COut → List COp2 → Prop
  | [], [] => True
  | o :: os, op :: ops => AgreesOut cmp T o op ∧ AgreeAll2 cmp T os ops
  | _, _ => False

def COp2.wv : COp2 → Bool
  | .point op => op.wv
  | .visit _ _ w _ => w

theorem stepC2_spec (f : Bytes) (bound : Nat) (cmp : Bytes → Bytes → Ordering) (fuel : Nat)
    (c : CTree) (T : Tree) (hc : T.Coherent f bound) (hr : Rep c T) (hf : T.height < fuel) (op : COp2) :
    ∃ out c' rds, stepC2 f cmp fuel c op = some (out, c', rds) ∧ Rep c' T ∧ AgreesOut cmp T out op ∧
      ∀ rd ∈ rds, Allowed op.wv T rd := by
  cases op with
  | point op =>
    obtain ⟨res, c', rds, e, h⟩ := stepC_spec f bound cmp fuel c T hc hr hf op
    exact ⟨.one res, c', rds, by simp only [stepC2, e, Option.map], h⟩
  | visit asc tgt wv stop =>
    cases stop with
    | zero =>
      obtain ⟨out, c', rds, e, h⟩ := visitC_spec f bound cmp asc wv tgt fuel c T 0 hc hr hf
      exact ⟨.many out, c', rds, by simp only [stepC2, e, Option.map], h⟩
    | succ k =>
      obtain ⟨out, b', c', rds, e, h1, h2, -, h3, -⟩ :=
        visit_spec f bound cmp asc wv tgt fuel c T 0 (k + 1) hc hr hf
      exact ⟨.many out, c', rds, by simp only [stepC2, e, Option.map], h1, h2, h3⟩

theorem runC2_spec (f : Bytes) (bound : Nat) (cmp : Bytes → Bytes → Ordering) (fuel : Nat) (T : Tree)
    (hc : T.Coherent f bound) (hf : T.height < fuel) :
    ∀ (ops : List COp2) (c : CTree), Rep c T →
    ∃ outs c' rds, runC2 f cmp fuel ops c = some (outs, c', rds) ∧ Rep c' T ∧ AgreeAll2 cmp T outs ops ∧
      ∀ wv, (∀ op ∈ ops, op.wv = true → wv = true) → ∀ rd ∈ rds, Allowed wv T rd := by
  intro ops
  induction ops with
  | nil => intro c hr; exact ⟨[], c, [], rfl, hr, trivial, fun _ _ => nofun⟩
  | cons op ops ih =>
    intro c hr
    obtain ⟨o, c1, r1, e1, hr1, hag, h1⟩ := stepC2_spec f bound cmp fuel c T hc hr hf op
    obtain ⟨os, c2, r2, e2, hr2, hags, h2⟩ := ih c1 hr1
    refine ⟨o :: os, c2, r1 ++ r2, by simp only [runC2, e1, e2, bind, Option.bind], hr2, ⟨hag, hags⟩,
      fun wv hw => List.forall_mem_append.2 ⟨fun rd h => (h1 rd h).imp (hw op (List.mem_cons_self ..)),
        h2 wv fun op' h' => hw op' (List.mem_cons_of_mem _ h')⟩⟩

end Gkv.Cache
