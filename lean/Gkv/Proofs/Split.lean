/-
What `split`, `union` and `join` keep because of the way they build trees (`Structural`), what
`split` does to the in-order list, and that a search tree is a tree whose in-order list is sorted.
With them, what `toList`, `get`, `min`/`max` satisfy without any order (`length_toList`, `get_some`,
`min_eq_head`, `max_eq_getLast`), and `setItem_nil`/`setItem_node`: `setItem` is `union` with a
one-node tree and so recurses on a measure; the two equations let a proof about `setItem` go by
induction on the tree (`setItem_heapBelow`, CopyCompact's `setItem_itemLocs`).
-/
import Gkv.Model.Spec
open Std

namespace Gkv
namespace Tree

variable (cmp : Bytes → Bytes → Ordering)

theorem All_imp {p q : Item → Prop} (h : ∀ i, p i → q i) : ∀ t, All p t → All q t
  | nil, _ => trivial
  | node l i _ _ r _ _, ⟨hl, hi, hr⟩ => ⟨All_imp h l hl, h i hi, All_imp h r hr⟩

theorem All_mk {p : Item → Prop} {l r : Tree} {i : Item} {q : Option Ploc} :
    All p (mk l i r q) ↔ All p l ∧ p i ∧ All p r := Iff.rfl

theorem All_iff_toList {p : Item → Prop} : ∀ t, All p t ↔ ∀ i ∈ t.toList, p i
  | nil => by simp [All, toList]
  | node l i _ _ r _ _ => by
    simp only [All, toList, List.mem_append, List.mem_cons, All_iff_toList l, All_iff_toList r]
    constructor
    · rintro ⟨hl, hi, hr⟩ j (hj | rfl | hj)
      · exact hl j hj
      · exact hi
      · exact hr j hj
    · intro h
      exact ⟨fun j hj => h j (Or.inl hj), h i (Or.inr (Or.inl rfl)), fun j hj => h j (Or.inr (Or.inr hj))⟩

theorem All.mem {p : Item → Prop} {t : Tree} (h : All p t) {i : Item} (hi : i ∈ t.toList) : p i :=
  (All_iff_toList t).mp h i hi

@[simp] theorem toList_mk (l r : Tree) (i : Item) (q : Option Ploc) :
    (mk l i r q).toList = l.toList ++ i :: r.toList := rfl

theorem BST_mk {l r : Tree} {i : Item} {q : Option Ploc} :
    BST cmp (mk l i r q) ↔ BST cmp l ∧ BST cmp r ∧ All (fun j => cmp j.key i.key = .lt) l ∧
      All (fun j => cmp j.key i.key = .gt) r := Iff.rfl

theorem length_toList : ∀ t : Tree, t.toList.length = t.size
  | nil => rfl
  | node l i a b r p q => by
    simp [toList, length_toList l, length_toList r]; omega

/-- `split`, `union`, `join` take nodes apart and build `mk l i r q` from subtrees they hold, with
    `(i, q)` the item and item location of a node they took apart (or, for `setItem`, the new item
    without a location).  `P` is kept by all of that when it holds of `nil`, passes from a node to
    its subtrees, where it yields `E` of the node's item and item location, and comes back for `mk`
    of such parts. -/
structure Structural (P : Tree → Prop) (E : Item → Option Ploc → Prop) : Prop where
  nil : P nil
  parts : ∀ {l i a b r p q}, P (node l i a b r p q) → P l ∧ E i q ∧ P r
  build : ∀ {l i r q}, P l → E i q → P r → P (mk l i r q)

theorem single_eq_mk (i : Item) : node nil i 1 i.nbytes nil none none = mk nil i nil none := by
  simp [mk, nn, nb]

namespace Structural
variable {P : Tree → Prop} {E : Item → Option Ploc → Prop} (h : Structural P E)
include h

/- The cases of `fun_induction`, here and wherever these functions are inducted on.
   `split`: 1 `nil`; 2 `.eq`; 3 `.lt`, no left child; 4 `.lt`, into the left child; 5 `.gt`, no right
   child; 6 `.gt`, into the right child.
   `join`: 1 `nil, t`; 2 `node, nil`; 3 `a`'s root outranks `b`'s; 4 otherwise.
   `union`: 1 `nil, b`; 2 `a, nil`; 3 `a`'s root outranks `b`'s and `split` finds its key in `b`
   (`hm`: the middle part is a node); 4 it outranks and the key is not in `b`; 5 otherwise (`b`'s
   root is the root, `a` is split). -/
theorem split (t : Tree) (s : Bytes) (ht : P t) :
    P (split cmp t s).1 ∧ P (split cmp t s).2.1 ∧ P (split cmp t s).2.2 := by
  fun_induction Tree.split cmp t s
  case case1 => exact ⟨h.nil, h.nil, h.nil⟩
  case case2 => exact ⟨(h.parts ht).1, ht, (h.parts ht).2.2⟩
  case case3 => exact ⟨h.nil, h.nil, ht⟩
  case case4 ih =>
    obtain ⟨hl, hi, hr⟩ := h.parts ht
    exact ⟨(ih hl).1, (ih hl).2.1, h.build (ih hl).2.2 hi hr⟩
  case case5 => exact ⟨ht, h.nil, h.nil⟩
  case case6 ih =>
    obtain ⟨hl, hi, hr⟩ := h.parts ht
    exact ⟨h.build hl hi (ih hr).1, (ih hr).2.1, (ih hr).2.2⟩

theorem join {a b : Tree} (ha : P a) (hb : P b) : P (join a b) := by
  fun_induction Tree.join a b
  case case1 => exact hb
  case case2 => exact ha
  case case3 ih =>
    obtain ⟨hl, hi, hr⟩ := h.parts ha
    exact h.build hl hi (ih hr hb)
  case case4 ih =>
    obtain ⟨hl, hi, hr⟩ := h.parts hb
    exact h.build (ih ha hl) hi hr

theorem union {a b : Tree} (ha : P a) (hb : P b) : P (union cmp a b) := by
  fun_induction Tree.union cmp a b
  case case1 => exact hb
  case case2 => exact ha
  case case3 hm ihl ihr =>
    -- the root is the item that `split` found in `b`
    obtain ⟨hl, _, hr⟩ := h.parts ha
    -- `{s}`: the key `split` is made at is left to each use to determine
    have hs {s} := h.split cmp _ s hb
    exact h.build (ihl hl hs.1) (h.parts (hm ▸ hs.2.1)).2.1 (ihr hr hs.2.2)
  case case4 ihl ihr =>
    obtain ⟨hl, hi, hr⟩ := h.parts ha
    have hs {s} := h.split cmp _ s hb
    exact h.build (ihl hl hs.1) hi (ihr hr hs.2.2)
  case case5 ihl ihr =>
    obtain ⟨hl, hi, hr⟩ := h.parts hb
    have hs {s} := h.split cmp _ s ha
    exact h.build (ihl hs.1 hl) hi (ihr hs.2.2 hr)

theorem setItem {t : Tree} (ht : P t) {i : Item} (hi : E i none) : P (setItem cmp t i) :=
  h.union cmp ht (single_eq_mk i ▸ h.build h.nil hi h.nil)

theorem delete {t : Tree} (ht : P t) (k : Bytes) : P (delete cmp t k).1 := by
  unfold Tree.delete
  split
  · exact ht
  · exact h.join (h.split cmp t k ht).1 (h.split cmp t k ht).2.2

end Structural

theorem structural_all (p : Item → Prop) : Structural (All p) fun i _ => p i :=
  ⟨trivial, id, fun hl hi hr => ⟨hl, hi, hr⟩⟩

theorem union_all {p : Item → Prop} {a b : Tree} (ha : All p a) (hb : All p b) :
    All p (union cmp a b) :=
  (structural_all p).union cmp ha hb

theorem setItem_all {p : Item → Prop} {t : Tree} (h : All p t) (i : Item) (hi : p i) :
    All p (setItem cmp t i) :=
  (structural_all p).setItem cmp h hi

theorem delete_all {p : Item → Prop} {t : Tree} (h : All p t) (k : Bytes) :
    All p (delete cmp t k).1 :=
  (structural_all p).delete cmp h k

theorem union_nil_right (a : Tree) : union cmp a nil = a := by
  cases a <;> simp [union]

theorem split_single (i : Item) (n b : Nat) (p q : Option Ploc) (s : Bytes) :
    split cmp (node nil i n b nil p q) s =
      match cmp s i.key with
      | .eq => (nil, node nil i n b nil p q, nil)
      | .lt => (nil, nil, node nil i n b nil p q)
      | .gt => (node nil i n b nil p q, nil, nil) := by
  unfold split
  cases cmp s i.key <;> rfl

theorem setItem_nil (i : Item) : setItem cmp nil i = node nil i 1 i.nbytes nil none none := by
  rw [setItem, union]

/-- `setItem` is the classical treap insertion: below a root that outranks the item it goes down
    on the item's side, or takes the root's place when the keys are equal; otherwise the item
    becomes the root over the parts of `split` at its key. -/
theorem setItem_node (l r : Tree) (j i : Item) (a b : Nat) (p q : Option Ploc) :
    setItem cmp (node l j a b r p q) i =
      if j.prio > i.prio then
        match cmp j.key i.key with
        | .eq => mk l i r none
        | .lt => mk l j (setItem cmp r i) q
        | .gt => mk (setItem cmp l i) j r q
      else mk (split cmp (node l j a b r p q) i.key).1 i (split cmp (node l j a b r p q) i.key).2.2 none := by
  rw [setItem, union]
  split
  · -- `split` of the one-node tree puts it left of, at, or right of the root's key
    simp only [split_single]
    cases cmp j.key i.key <;> simp only [union_nil_right, setItem]
  · simp only [union_nil_right]

/-! ### `split` without order hypotheses: it cuts the in-order list in three, and the root of the
    middle part is what `get` finds -/

def root? : Tree → Option Item
  | nil => none
  | node _ i _ _ _ _ _ => some i

theorem split_toList (t : Tree) (s : Bytes) :
    (split cmp t s).1.toList ++ ((split cmp t s).2.1.root?.toList ++ (split cmp t s).2.2.toList)
      = t.toList := by
  fun_induction split cmp t s
  case case1 => rfl
  case case2 => simp [toList, root?]
  case case3 => rfl
  case case4 ih => simp only [toList_mk, toList, ← ih, List.append_assoc]
  case case5 => simp [toList, root?]
  case case6 ih => simp only [toList_mk, toList, ← ih, List.append_assoc, List.cons_append]

theorem split_root? (t : Tree) (s : Bytes) : (split cmp t s).2.1.root? = get cmp t s := by
  fun_induction split cmp t s
  case case1 => rfl
  case case2 h => simp only [get, h, root?]
  case case3 h => simp only [get, h, root?]
  case case4 h _ ih => simp only [get, h, ih]
  case case5 h => simp only [get, h, root?]
  case case6 h _ ih => simp only [get, h, ih]

/-- the item found has a key `cmp`-equal to the one asked for, and is an item of the tree -/
theorem get_some {p : Item → Prop} {k : Bytes} {j : Item} : ∀ {t : Tree}, All p t →
    get cmp t k = some j → p j ∧ cmp k j.key = .eq
  | nil, _, h => by simp [get] at h
  | node l i _ _ r _ _, ⟨hl, hi, hr⟩, h => by
    unfold get at h
    split at h
    · exact get_some hl h
    · exact get_some hr h
    next hc => cases h; exact ⟨hi, hc⟩

theorem get_key {t : Tree} {k : Bytes} {j : Item} (h : get cmp t k = some j) : cmp k j.key = .eq :=
  (get_some cmp ((All_iff_toList t).mpr fun _ _ => trivial) h).2

theorem split_mid_node {t : Tree} {s : Bytes} {ml mr : Tree} {mi : Item} {mn mb : Nat}
    {mp mq : Option Ploc} (hm : (split cmp t s).2.1 = node ml mi mn mb mr mp mq) :
    get cmp t s = some mi ∧ cmp s mi.key = .eq := by
  have hg : get cmp t s = some mi := by rw [← split_root?, hm]; rfl
  exact ⟨hg, get_key cmp hg⟩

theorem min_eq_head : ∀ t : Tree, t.min = t.toList.head?
  | nil => rfl
  | node nil i _ _ r _ _ => by simp [min, toList]
  | node (node ll li la lb lr lp lq) i _ _ r _ _ => by
    have ih := min_eq_head (node ll li la lb lr lp lq)
    simp only [min, toList] at ih ⊢
    rw [ih]
    simp [List.head?_append]

theorem max_eq_getLast : ∀ t : Tree, t.max = t.toList.getLast?
  | nil => rfl
  | node l i _ _ nil _ _ => by simp [max, toList]
  | node l i _ _ (node rl ri ra rb rr rp rq) _ _ => by
    have ih := max_eq_getLast (node rl ri ra rb rr rp rq)
    simp only [max, toList] at ih ⊢
    rw [ih]
    simp [List.getLast?_append, List.getLast?_cons]

variable [TransCmp cmp]

theorem bst_iff_sorted : ∀ t : Tree, BST cmp t ↔ Spec.Sorted cmp t.toList
  | nil => by simp [BST, Spec.Sorted, toList]
  | node l i _ _ r _ _ => by
    simp only [BST, toList, Spec.Sorted, List.pairwise_append, List.pairwise_cons, List.mem_cons,
      All_iff_toList, bst_iff_sorted l, bst_iff_sorted r]
    constructor
    · rintro ⟨hl, hr, hal, har⟩
      refine ⟨hl, ⟨fun y hy => OrientedCmp.lt_of_gt (har y hy), hr⟩, ?_⟩
      rintro x hx y (rfl | hy)
      · exact hal x hx
      · exact TransCmp.lt_trans (hal x hx) (OrientedCmp.lt_of_gt (har y hy))
    · rintro ⟨hl, ⟨hir, hr⟩, hlr⟩
      exact ⟨hl, hr, fun x hx => hlr x hx i (Or.inl rfl), fun y hy => OrientedCmp.gt_of_lt (hir y hy)⟩

theorem toList_sorted {t : Tree} (h : BST cmp t) : Spec.Sorted cmp t.toList :=
  (bst_iff_sorted cmp t).mp h

theorem split_bst : ∀ (t : Tree) (s : Bytes), BST cmp t →
    BST cmp (split cmp t s).1 ∧ BST cmp (split cmp t s).2.2 ∧
    All (fun j => cmp j.key s = .lt) (split cmp t s).1 ∧
    All (fun j => cmp j.key s = .gt) (split cmp t s).2.2 := by
  intro t s h
  -- the outer parts are sublists of the in-order list, which is sorted
  have hs := toList_sorted cmp h
  rw [← split_toList cmp t s] at hs
  refine ⟨(bst_iff_sorted cmp _).mpr (hs.sublist (List.sublist_append_left ..)),
    (bst_iff_sorted cmp _).mpr (hs.sublist ((List.sublist_append_right ..).trans
      (List.sublist_append_right ..))), ?_⟩
  clear hs
  -- on which side of `s` they lie is decided along the search path
  fun_induction split cmp t s
  case case1 => exact ⟨trivial, trivial⟩
  case case2 heq =>
    have he := OrientedCmp.eq_symm heq
    exact ⟨All_imp (fun j hj => TransCmp.lt_of_lt_of_eq hj he) _ h.2.2.1,
      All_imp (fun j hj => TransCmp.gt_of_gt_of_eq hj he) _ h.2.2.2⟩
  case case3 hlt =>
    have his := OrientedCmp.gt_of_lt hlt
    exact ⟨trivial, trivial, his, All_imp (fun j hj => TransCmp.gt_trans hj his) _ h.2.2.2⟩
  case case4 hlt _ ih =>
    have his := OrientedCmp.gt_of_lt hlt
    exact ⟨(ih h.1).1, (ih h.1).2, his, All_imp (fun j hj => TransCmp.gt_trans hj his) _ h.2.2.2⟩
  case case5 hgt =>
    have his := OrientedCmp.lt_of_gt hgt
    exact ⟨⟨All_imp (fun j hj => TransCmp.lt_trans hj his) _ h.2.2.1, his, trivial⟩, trivial⟩
  case case6 hgt _ ih =>
    have his := OrientedCmp.lt_of_gt hgt
    exact ⟨⟨All_imp (fun j hj => TransCmp.lt_trans hj his) _ h.2.2.1, his, (ih h.2.1).1⟩, (ih h.2.1).2⟩

end Tree
end Gkv
