/-
Proofs for `Gkv.Model.VersionsFine` (non-atomic marking, aborting mutations).

Method: refinement.  `abs` forgets the marks of the mutation in flight; every event of the fine-grained
system is matched by zero, one or two events of the atomic system of `Versions.lean`:

  acquire / release / load  ↦ the same event            beginMutate ↦ acquire N
  markOne, clearOne         ↦ (nothing)                 abort       ↦ release N
  commit Rn New T           ↦ release N ; mutate (pending \ Rn) Rn New T

so `ReachFine fs → Reach (abs fs)` and all of `HInv` is inherited.
-/
import Gkv.Model.VersionsFine
namespace Gkv.VersionsFine
open Classical
open Gkv.Versions

theorem clearMarks_none {s : St} {P : Nat → Prop} (h : ∀ n, ¬ P n) : clearMarks s P = s :=
  St_ext rfl rfl rfl rfl rfl (funext fun n => if_neg (h n)) rfl

section clearlemmas
variable (s : St) (P : Nat → Prop)
@[simp] theorem clear_N : (clearMarks s P).N = s.N := rfl
@[simp] theorem clear_refs : (clearMarks s P).refs = s.refs := rfl
@[simp] theorem clear_hp : (clearMarks s P).hp = s.hp := rfl
@[simp] theorem clear_chained : (clearMarks s P).chained = s.chained := rfl
@[simp] theorem clear_tree : (clearMarks s P).tree = s.tree := rfl
@[simp] theorem clear_freed : (clearMarks s P).freed = s.freed := rfl
theorem clear_mark (n : Nat) : (clearMarks s P).mark n = if P n then none else s.mark n := rfl
theorem clear_chainIn (w : Nat) : chainIn (clearMarks s P) w = chainIn s w := rfl
end clearlemmas

theorem reclaim_clear (s : St) (P : Nat → Prop) (v : Nat) (Fv : Nat → Prop)
    (h : ∀ n, P n → v ≠ s.N ∧ s.mark n = some s.N) :
    reclaim (clearMarks s P) v Fv = clearMarks (reclaim s v Fv) P := by
  have hm : ∀ n, markAt (clearMarks s P) v n = if P n then none else markAt s v n := fun n => by
    by_cases hp : P n
    · rw [if_pos hp, markAt_ne (clearMarks s P) n (h n hp).1]; exact if_pos hp
    · rw [if_neg hp]; unfold markAt; rw [clear_mark, if_neg hp]; rfl
  refine St_ext rfl rfl rfl rfl rfl (funext hm) (funext fun n => ?_)
  show (s.freed n ∨ (Fv n ∧ markAt (clearMarks s P) v n = some v)) = (s.freed n ∨ (Fv n ∧ markAt s v n = some v))
  rw [hm]
  split
  next hp =>
    -- a node of `P` carries the current version's mark, not `v`'s
    have : ¬ markAt s v n = some v := by
      rw [markAt_ne s n (h n hp).1, (h n hp).2]; exact fun e => (h n hp).1 (Option.some.inj e).symm
    simp [this]
  next => rfl

/-- The `dec` cascade commutes with forgetting the pending marks, as long as it leaves the current version alive
    while there are any: it reads the marks only where it reclaims, and a reclaimed version is dead. -/
theorem dec_clear (F : Nat → Nat → Prop) (P : Nat → Prop) (fuel : Nat) (s : St) (v : Nat) :
    (∀ n, P n → s.mark n = some s.N ∧ (dec F fuel (clearMarks s P) v).refs s.N > 0) →
    dec F fuel (clearMarks s P) v = clearMarks (dec F fuel s v) P := by
  fun_induction dec F fuel s v with
  | case1 => exact fun _ => rfl
  | case2 fuel s v hgt => exact fun _ => dec_gt F fuel (clearMarks s P) v hgt
  | case3 fuel s v hgt s2 ih =>
    rw [dec_le F fuel (clearMarks s P) v hgt]
    show (∀ n, P n → _ ∧ (if s.chained v = true then dec F fuel (clearMarks (kill s v) P) (v+1)
      else clearMarks (kill s v) P).refs s.N > 0) → reclaim (if s.chained v = true then
        dec F fuel (clearMarks (kill s v) P) (v+1) else clearMarks (kill s v) P) v (F v) = clearMarks (reclaim s2 v (F v)) P
    unfold s2; split
    · intro hP
      have e := ih hP
      rw [e] at hP ⊢
      exact reclaim_clear _ P v (F v) fun n hp => by
        rw [dec_N]
        exact ⟨fun ev => Nat.ne_of_gt (hP n hp).2 (ev ▸ (dec_refs_lt F fuel _ _ (Nat.lt_succ_self v)).trans (if_pos rfl)),
          dec_mark_keep F fuel _ _ (hP n hp).1⟩
    · exact fun hP => reclaim_clear _ P v (F v) fun n hp =>
        ⟨fun ev => Nat.ne_of_gt (hP n hp).2 (ev ▸ if_pos rfl), (hP n hp).1⟩

section publishF
variable (s : St) (R Rn New T : Nat → Prop)
theorem publishF_refs (w : Nat) : (publishF s R Rn New T).refs w =
    if w = s.N + 1 then 1 + (if decide (s.refs s.N > 2) = true then 1 else 0) else s.refs w := rfl
theorem publishF_hp (w : Nat) : (publishF s R Rn New T).hp w =
    if w = s.N + 1 then 1 else if w = s.N then s.hp s.N - 1 else s.hp w := rfl
end publishF

/-- taking one off `f a` and overwriting the value at `b ≠ a`, in either order -/
theorem dec_upd_comm {a b : Nat} (h : ¬ a = b) (f : Nat → Nat) (x w : Nat) :
    (if w = a then (if a = b then x else f a) - 1 else if w = b then x else f w) =
      if w = b then x else if w = a then f a - 1 else f w := by
  rw [if_neg h]
  by_cases e : w = a
  · rw [if_pos e, if_neg (e ▸ h), if_pos e]
  · rw [if_neg e, if_neg e]

/-- The code's commit (rootCAS with the `refs > 2` test, then two rootDecRef) is the atomic system's
    `release N` of the mutator's pin followed by `mutate`, run from the state without the pending marks. -/
theorem commitSt_eq (F : Nat → Nat → Prop) (s : St) (P Rn New T : Nat → Prop)
    (hacct : s.refs s.N = s.hp s.N + chainIn s s.N) (hhp : s.hp s.N ≥ 2) :
    commitSt F s P Rn New T = mutate F (release F (clearMarks s P) s.N) (keepR P Rn) Rn New T := by
  have hN : ¬ s.N = s.N + 1 := Nat.ne_of_lt (Nat.lt_succ_self _)
  have hr : s.refs s.N > 1 := by omega
  -- both sides are the cascade from `N`: on the left after the first `rootDecRef`, on the right after `release N`,
  -- and each of these only takes one reference from `N`
  rw [mutate, release_gt F (clearMarks s P) s.N hr]
  show release F (dec F (s.N + 2) (publishF s (keepR P Rn) Rn New T) s.N) s.N = _
  rw [dec_gt F _ _ _ ((publishF_refs s _ Rn New T s.N).trans (if_neg hN) ▸ hr)]
  -- the chain test: the pin is one holder more, and one reference more
  have hd : (dropHolder s s.N).hp s.N = s.hp s.N - 1 := if_pos rfl
  have hch : decide (s.refs s.N > 2) = decide ((dropHolder s s.N).hp s.N + chainIn s s.N ≥ 2) := by
    rw [hd, hacct]; exact decide_eq_decide.2 (by omega)
  refine congrArg (dec F (s.N + 2) · s.N) (St_ext rfl (funext fun w => ?_)
    (funext fun w => dec_upd_comm hN (dropHolder s s.N).hp 1 w)
    (funext fun w => congrArg (fun b : Bool => if w = s.N then b else s.chained w) hch) rfl (funext fun n => ?_) rfl)
  · have hc : (if decide (s.refs s.N > 2) = true then 1 else 0) =
        if (dropHolder s s.N).hp s.N + chainIn s s.N ≥ 2 then 1 else 0 := by
      rw [hch]; exact ite_cond_congr decide_eq_true_eq
    rw [publish_refs]
    exact hc ▸ dec_upd_comm hN s.refs _ w
  · -- a pending node is in `keepR P Rn` or in `Rn`: the marks cleared are overwritten
    exact ite_congr rfl (fun _ => rfl) fun hk => ite_congr rfl (fun _ => rfl) fun hr =>
      (if_neg fun hp => hk ⟨hp, fun h => hr (Or.inl h)⟩).symm

/-- the facts about the ghost component -/
structure PInv (fs : FSt) : Prop where
  idle_none : fs.inflight = false → ∀ n, ¬ fs.pending n
  pending_ok : ∀ n, fs.pending n → fs.base.tree fs.base.N n ∧ fs.base.mark n = some fs.base.N
  pinned : fs.inflight = true → fs.base.hp fs.base.N ≥ 1

/-- with no mutation in flight and nothing pending a state is its own abstraction -/
theorem idle_refine {F : Nat → Nat → Prop} {s : St} (h : Reach F s) :
    Reach F (abs { base := s, inflight := false, pending := fun _ => False }) ∧
    PInv { base := s, inflight := false, pending := fun _ => False } :=
  ⟨by rw [abs, clearMarks_none fun _ => id]; exact h, fun _ _ h => h, fun _ h => h.elim, nofun⟩

theorem abs_mark_pending {fs : FSt} {n : Nat} (hp : fs.pending n) : (abs fs).mark n = none := if_pos hp

theorem abs_mark_other {fs : FSt} {n : Nat} (hp : ¬ fs.pending n) : (abs fs).mark n = fs.base.mark n :=
  if_neg hp

theorem abs_mark_none {fs : FSt} {n : Nat} (h : fs.base.mark n = none) : (abs fs).mark n = none := by
  show (if fs.pending n then none else fs.base.mark n) = none
  rw [h]; exact ite_self _

theorem abs_idle {fs : FSt} (h : PInv fs) (hi : fs.inflight = false) : abs fs = fs.base :=
  clearMarks_none (h.idle_none hi)

/-- a step that changes the mark and the pending bit of one node only, and not what `abs` shows of it, is invisible -/
theorem abs_eq_of_node {fs fs' : FSt} (n : Nat) (hb : fs'.base = { fs.base with mark := fs'.base.mark })
    (hn : (abs fs').mark n = (abs fs).mark n)
    (hm : ∀ m, m ≠ n → fs'.base.mark m = fs.base.mark m ∧ (fs'.pending m ↔ fs.pending m)) : abs fs' = abs fs := by
  have : (abs fs').mark = (abs fs).mark := funext fun m => by
    by_cases e : m = n
    · rw [e]; exact hn
    · show (if fs'.pending m then none else fs'.base.mark m) = if fs.pending m then none else fs.base.mark m
      rw [(hm m e).1, propext (hm m e).2]
  unfold abs at this ⊢; rw [hb]
  exact St_ext rfl rfl rfl rfl rfl this rfl

theorem abs_fMark {fs : FSt} {n : Nat} (h : (abs fs).mark n = none) : abs (fMark fs n) = abs fs :=
  abs_eq_of_node n rfl ((abs_mark_pending (Or.inl rfl)).trans h.symm) fun _ hmn => ⟨if_neg hmn, or_iff_right hmn⟩

theorem acquire_hp_le (s : St) (v w : Nat) : s.hp w ≤ (acquire s v).hp w := by
  show _ ≤ if w = v then s.hp v + 1 else s.hp w
  split
  next e => rw [e]; exact Nat.le_succ _
  next => exact Nat.le_refl _

/-- REFINEMENT: every reachable state of the fine-grained system abstracts (by forgetting the pending marks) to a
    reachable state of the atomic system of Versions.lean, and the ghost component is well formed. -/
theorem refine (F : Nat → Nat → Prop) : ∀ fs, ReachFine F fs → Reach F (abs fs) ∧ PInv fs := by
  intro fs hr
  induction hr with
  | init => exact idle_refine (Reach.init 0)
  | @acquire fs v _ hv ih =>
    exact ⟨Reach.acquire ih.1 hv, ih.2.idle_none, ih.2.pending_ok, fun hi => Nat.le_trans (ih.2.pinned hi) (acquire_hp_le ..)⟩
  | @release fs v _ hv ih =>
    have hv0 : (abs fs).hp v > 0 := Nat.zero_lt_of_lt hv
    -- the holder released is not the pin,
    have hpin : fs.inflight = true → (if fs.base.N = v then fs.base.hp v - 1 else fs.base.hp fs.base.N) ≥ 1 :=
      fun hi => by
        split
        next e => rw [reserved, if_pos ⟨hi, e.symm⟩] at hv; exact Nat.le_sub_one_of_lt hv
        next => exact ih.2.pinned hi
    -- so `N` stays alive, and the cascade does not read the pending marks
    have hlive : fs.inflight = true → (release F (abs fs) v).refs fs.base.N > 0 := fun hi => by
      rw [(reach_inv F _ (Reach.release ih.1 hv0)).acct, release_hp]
      exact Nat.lt_of_lt_of_le (hpin hi) (Nat.le_add_right _ _)
    have e : release F (abs fs) v = abs (fRelease F fs v) :=
      dec_clear F fs.pending _ (dropHolder fs.base v) v fun n hp =>
        ⟨(ih.2.pending_ok n hp).2, hlive (Bool.of_not_eq_false fun h => ih.2.idle_none h n hp)⟩
    refine ⟨e ▸ Reach.release ih.1 hv0, ih.2.idle_none, fun n hp => ?_, fun hi => ?_⟩
    · show (release F fs.base v).tree (release F fs.base v).N n ∧ (release F fs.base v).mark n = some (release F fs.base v).N
      rw [release_N, release_tree]
      exact ⟨(ih.2.pending_ok n hp).1, dec_mark_keep F _ _ v (ih.2.pending_ok n hp).2⟩
    · show (release F fs.base v).hp (release F fs.base v).N ≥ 1
      rw [release_N, release_hp]; exact hpin hi
  | @load fs p x _ hm hf ih =>
    exact ⟨Reach.load ih.1 (abs_mark_none hm) hf, ih.2.idle_none,
      fun n hp => ⟨Or.inl (ih.2.pending_ok n hp).1, (ih.2.pending_ok n hp).2⟩, ih.2.pinned⟩
  | @beginMutate fs _ hi hh ih =>
    refine ⟨?_, nofun, fun _ h => h.elim, fun _ => Nat.le_trans hh (acquire_hp_le ..)⟩
    rw [show abs (fBegin fs) = acquire fs.base fs.base.N from clearMarks_none fun _ => id]
    exact Reach.acquire (abs_idle ih.2 hi ▸ ih.1) hh
  | @markOne fs n _ hi ht hm ih =>
    refine ⟨abs_fMark (abs_mark_none hm) ▸ ih.1, fun h => Bool.noConfusion (hi.symm.trans h), fun m hp => ?_, ih.2.pinned⟩
    refine ⟨hp.elim (· ▸ ht) fun hp => (ih.2.pending_ok m hp).1, ?_⟩
    show (if m = n then some fs.base.N else fs.base.mark m) = some fs.base.N
    split
    · rfl
    next hmn => exact (ih.2.pending_ok m (hp.resolve_left hmn)).2
  | @clearOne fs n _ hi hp ih =>
    have e : abs (fClear fs n) = abs fs := abs_eq_of_node n rfl
      ((abs_mark_none (if_pos rfl)).trans (abs_mark_pending hp).symm) fun m hmn => ⟨if_neg hmn, and_iff_left hmn⟩
    refine ⟨e ▸ ih.1, fun h => Bool.noConfusion (hi.symm.trans h), fun m hp => ?_, ih.2.pinned⟩
    show fs.base.tree fs.base.N m ∧ (if m = n then none else fs.base.mark m) = some fs.base.N
    rw [if_neg hp.2]; exact ih.2.pending_ok m hp.1
  | @abort fs _ hi ih => exact idle_refine (Reach.release ih.1 (ih.2.pinned hi))
  | @commit fs Rn New T _ hi hh m ih =>
    have hac := (reach_inv F _ ih.1).acct fs.base.N
    unfold fCommit; rw [commitSt_eq F fs.base fs.pending Rn New T hac hh]
    refine idle_refine (Reach.mutate (Reach.release ih.1 (Nat.lt_of_lt_of_le Nat.zero_lt_two hh)) ?_)
    -- with the handle still open the release of the pin is a plain decrement: trees, marks and the free list stay
    show MutPre (release F (abs fs) fs.base.N) _ Rn New T
    rw [release_gt F (abs fs) fs.base.N (hac ▸ Nat.lt_of_lt_of_le hh (Nat.le_add_right _ _))]
    refine ⟨?_, m.R_sub, m.Rn_sub, fun n hn => ?_, m.T_fresh⟩
    · show (if fs.base.N = fs.base.N then fs.base.hp fs.base.N - 1 else _) > 0
      rw [if_pos rfl]; exact Nat.le_sub_one_of_lt hh
    · have f := m.New_fresh n hn
      exact ⟨f.1, abs_mark_none f.2.1, f.2.2⟩

theorem finv_abs {fs : FSt} (h : FInv fs) : HInv (abs fs) := by
  refine ⟨h.acct, h.above, h.chN, h.live_chained, h.chained_live, fun n v w hm ht => ?_, h.safe,
    fun hr n ht => ?_⟩
  · by_cases hp : fs.pending n
    · rw [abs_mark_pending hp] at hm; cases hm
    · rw [abs_mark_other hp] at hm; exact h.mark_le n v w hm ht
  · by_cases hp : fs.pending n
    · exact abs_mark_pending hp
    · rw [abs_mark_other hp]
      exact Classical.byContradiction fun hne => hp (h.cur_marked_pending hr n ht hne)

theorem abs_finv {fs : FSt} (ha : HInv (abs fs)) (hp : PInv fs) : FInv fs := by
  refine ⟨ha.acct, ha.above, ha.chN, ha.live_chained, ha.chained_live, fun n v w hm ht => ?_, ha.safe,
    fun hr n ht hne => ?_, hp.idle_none, hp.pending_ok, hp.pinned⟩
  · by_cases hpn : fs.pending n
    · rw [(hp.pending_ok n hpn).2] at hm; cases hm
      exact tree_le_N ha ht
    · exact ha.mark_le n v w ((abs_mark_other hpn).trans hm) ht
  · exact Classical.byContradiction fun hpn =>
      hne ((abs_mark_other hpn).symm.trans (ha.cur_unmarked hr n ht))

theorem fine_inv (F : Nat → Nat → Prop) (fs : FSt) (hr : ReachFine F fs) : FInv fs :=
  let r := refine F fs hr
  abs_finv (reach_inv F _ r.1) r.2

theorem fine_safe (F : Nat → Nat → Prop) : ∀ fs, ReachFine F fs →
    ∀ w n, fs.base.refs w > 0 → fs.base.tree w n → ¬ fs.base.freed n :=
  fun fs hr => (fine_inv F fs hr).safe

/-- ABORT RESTORES THE INVARIANT: from any state satisfying the fine invariant with a mutation in flight, after
    `abort` (reclaimMarkClear + the deferred rootDecRef) the ORIGINAL invariant `HInv` holds again — in
    particular the current tree is unmarked (`cur_unmarked`), so the next mutation cannot reclaim live nodes. -/
theorem abort_restores (F : Nat → Nat → Prop) (fs : FSt) (h : FInv fs) (hi : fs.inflight = true) :
    HInv (fAbort F fs).base ∧ (fAbort F fs).inflight = false ∧ ∀ n, ¬ (fAbort F fs).pending n :=
  ⟨release_inv F (finv_abs h) fs.base.N (h.pinned hi), rfl, fun _ h => h⟩

/-- the same for reachable states -/
theorem abort_restores_reach (F : Nat → Nat → Prop) (fs : FSt) (hr : ReachFine F fs)
    (hi : fs.inflight = true) : HInv (fAbort F fs).base :=
  (abort_restores F fs (fine_inv F fs hr) hi).1

/-- With no mutation in flight (in particular after every abort and every commit) the original `HInv` holds. -/
theorem idle_hinv (F : Nat → Nat → Prop) (fs : FSt) (hr : ReachFine F fs) (hi : fs.inflight = false) :
    HInv fs.base := by
  have r := refine F fs hr
  have := reach_inv F _ r.1
  rw [abs_idle r.2 hi] at this
  exact this

/-- THE MUTATOR'S REFERENCE (derived from the accounting, not assumed): while a mutation is in flight the
    current version is live, in every reachable state — so no `release`/`dec` cascade of another goroutine,
    whatever version it starts from, can bring `refs N` to zero and reclaim N's marks under the mutator. -/
theorem inflight_refs_pos (F : Nat → Nat → Prop) (fs : FSt) (hr : ReachFine F fs)
    (hi : fs.inflight = true) : fs.base.refs fs.base.N > 0 := by
  have h := fine_inv F fs hr
  have := h.acct fs.base.N
  have := h.pinned hi
  omega

/-- the same, spelled out for the state after a release by another holder -/
theorem release_keeps_current (F : Nat → Nat → Prop) (fs : FSt) (hr : ReachFine F fs)
    (hi : fs.inflight = true) (v : Nat) (hv : fs.base.hp v > reserved fs v) :
    (fRelease F fs v).base.refs (fRelease F fs v).base.N > 0 :=
  inflight_refs_pos F _ (ReachFine.release hr hv) hi

/-- WHY THE CLEAR IS NEEDED (the defect "a mutation that failed half way left reclaim marks …"): if the aborting
    mutator only unpins, without `reclaimMarkClear`, and the handle is still open, the original invariant is
    broken as soon as one node was marked — the current tree of a live version carries a mark. -/
theorem abort_without_clear_breaks (F : Nat → Nat → Prop) (fs : FSt) (h : FInv fs)
    (hh : fs.base.hp fs.base.N ≥ 2) (n : Nat) (hp : fs.pending n) :
    ¬ HInv (release F fs.base fs.base.N) := by
  intro hI
  have hac := h.acct fs.base.N
  have hr : fs.base.refs fs.base.N > 1 := by omega
  rw [release_gt F fs.base fs.base.N hr] at hI
  have hpn := h.pending_ok n hp
  have e : fs.base.mark n = none := hI.cur_unmarked
    (decr_live.2 (show fs.base.refs fs.base.N > if fs.base.N = fs.base.N then 1 else 0 by rw [if_pos rfl]; exact hr)) n hpn.1
  rw [hpn.2] at e; cases e

theorem publishF_mark_noop {fs : FSt} (h : FInv fs) (Rn New T : Nat → Prop) (n : Nat)
    (hk : keepR fs.pending Rn n) :
    (publishF fs.base (keepR fs.pending Rn) Rn New T).mark n = fs.base.mark n := by
  show (if keepR fs.pending Rn n then some fs.base.N else _) = _
  rw [if_pos hk, (h.pending_ok n hk.1).2]

/-- a run of `markOne` events -/
def markAll (fs : FSt) (l : List Nat) : FSt := l.foldl fMark fs

/-- seen through `abs`, a marking run of unmarked nodes only makes them pending -/
theorem markAll_spec (l : List Nat) : ∀ fs : FSt, (∀ n, n ∈ l → (abs fs).mark n = none) →
    abs (markAll fs l) = abs fs ∧ (markAll fs l).pending = fun m => m ∈ l ∨ fs.pending m := by
  induction l with
  | nil => exact fun fs _ => ⟨rfl, funext fun m => propext ⟨Or.inr, fun h => h.resolve_left List.not_mem_nil⟩⟩
  | cons a l ih =>
    intro fs h
    have e := abs_fMark (h a List.mem_cons_self)
    have := ih (fMark fs a) fun n hn => e ▸ h n (List.mem_cons_of_mem a hn)
    refine ⟨this.1.trans e, this.2.trans (funext fun m => propext ?_)⟩
    show m ∈ l ∨ (m = a ∨ fs.pending m) ↔ _
    rw [List.mem_cons, or_left_comm, or_assoc]

/-- SIMULATION: from a state `s` of the atomic system with no mutation in flight, the fine-grained run
    `beginMutate; markOne n₁; …; markOne nₖ; commit Rn New T` (nothing interleaved) ends in exactly the state of the
    atomic event `mutate R Rn New T` with `R = {n₁..nₖ} \ Rn`. -/
theorem atomic_run (F : Nat → Nat → Prop) (s : St) (h : HInv s) (hh : s.hp s.N > 0)
    (l : List Nat) (hl : ∀ n, n ∈ l → s.tree s.N n) (Rn New T : Nat → Prop) :
    (fCommit F (markAll (fBegin { base := s, inflight := false, pending := fun _ => False }) l) Rn New T).base
      = mutate F s (keepR (fun n => n ∈ l) Rn) Rn New T := by
  have hr : s.refs s.N > 0 := by have := h.acct s.N; omega
  -- seen through `abs` the marking run is invisible: `fs` is `acquire s N` with the nodes of `l` pending
  obtain ⟨ea, ep⟩ := markAll_spec l (fBegin ⟨s, false, fun _ => False⟩) fun n hn =>
    abs_mark_none (h.cur_unmarked hr n (hl n hn))
  generalize markAll (fBegin ⟨s, false, fun _ => False⟩) l = fs at ea ep ⊢
  have ea : clearMarks fs.base fs.pending = acquire s s.N := ea.trans (clearMarks_none fun _ => id)
  have hN : fs.base.N = s.N := (congrArg St.N ea :)
  have hA : HInv (acquire s s.N) ∧ (acquire s s.N).hp s.N ≥ 2 :=
    ⟨acquire_inv h s.N hh, Nat.le_trans (Nat.succ_le_succ hh) (Nat.le_of_eq (if_pos rfl).symm)⟩
  rw [← ea, ← hN] at hA
  show commitSt F fs.base fs.pending Rn New T = _
  rw [commitSt_eq F fs.base fs.pending Rn New T (hA.1.acct _) hA.2, ea, hN, release_acquire F s s.N hr, ep]
  simp only [fBegin, or_false]

end Gkv.VersionsFine

#print axioms Gkv.VersionsFine.refine
#print axioms Gkv.VersionsFine.fine_inv
#print axioms Gkv.VersionsFine.fine_safe
#print axioms Gkv.VersionsFine.abort_restores
#print axioms Gkv.VersionsFine.abort_without_clear_breaks
#print axioms Gkv.VersionsFine.inflight_refs_pos
#print axioms Gkv.VersionsFine.release_keeps_current
#print axioms Gkv.VersionsFine.commitSt_eq
#print axioms Gkv.VersionsFine.atomic_run

/-
Model vs. Go code (collection.go / alloc.go / treap.go)

Where model and code say the same thing differently:
 * `Versions.publish` tests `hp N + chainIn N ≥ 2` in a state WITHOUT the mutator's pin; the code tests
   `prev.refs > 2` WITH the pin.  `commitSt_eq` proves the two descriptions give the same state.
 * The mutator's first `rootDecRef(rnl)` after rootCAS never reaches zero (the pin is still there); the
   deferred one does the reclaim.  In the model: first `dec` is the plain-decrement branch (`commitSt_eq`).
 * `release`/`dec` by other goroutines cannot reclaim N while a mutation is in flight
   (`inflight_refs_pos`): derived from `acct` + the pin being a holder.

Still idealised / outside the model:
 1. `commit` fuses `reclaimMarkUpdate` (one critical section per node), `rootCAS`, `rootDecRef`, `rootDecRef` into
    one event.  Between rootCAS and the last rootDecRef the code is in a state that does NOT satisfy `HInv`
    (`live_chained` fails for N when `prev.refs = 2`: N has two references, both the mutator's, and no chain).
    That is harmless in the code because nobody can acquire N any more (`t.root` is N+1) and the mutator
    does not read tree N after rootCAS, but it is an argument outside these theorems (it needs an `InvX`-style
    invariant for interleaved events).
 2. A failed `rootCAS` ("concurrent mutation attempted": the handle was closed or a second mutator raced) returns
    WITHOUT `reclaimMarkClear` and without releasing `rnlNew`: marks of N stay on live nodes.  The model's `commit`
    is simply disabled in that case (`hp N ≥ 2` fails) and the only way on is `abort`, i.e. the model assumes
    the clear that the code does not do on this path.  Reachable only by violating the single-mutator contract.
 3. Nodes that are in no tree are not in the model until `commit` (`T`).  On ABORT the code leaks them: the node
    `SetItem` made for the new item (with the `ItemAddRef` on the caller's item), and every node `split`/`union`/
    `join` made with `mkNode` before the read error (each took `ItemAddRef` on a cached item), are neither put
    on the free list nor `ItemDecRef`ed (DESIGN.md §8, F8: noted, outside every listed property).  Also marks laid on private copies
    (children loaded into a copied nodeLoc after split's `c == 0` case) are not reached by `reclaimMarkClear`,
    which walks the cached tree from the root; those nodes are garbage, so this is harmless for safety.
 4. `markOne` requires `mark n = none`; the code's `markReclaimable` silently skips a node that is already marked.
    By `FInv.mark_le`/`cur_marked_pending` a marked node of tree N is pending, so the skipped case is a no-op.
-/
