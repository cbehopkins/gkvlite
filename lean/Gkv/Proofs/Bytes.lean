/-
Files as byte lists: what `readAt` and `writeAt` do to lengths, prefixes and appended parts, how
long the records of the format are, and what the decoders written in `do` notation (`decNode`,
`decItem`, `rootAt`) compute, said without it: proofs rewrite with these instead of unfolding the
`do` blocks.
-/
import Gkv.Model.Codec

namespace Gkv

theorem readAt_length {f : Bytes} {off len : Nat} {b : Bytes} (h : readAt f off len = some b) :
    b.length = len := by
  unfold readAt at h
  split at h
  · injection h with h
    subst h
    rw [List.length_take, List.length_drop]
    omega
  · cases h

theorem readAt_take (f : Bytes) (e off len : Nat) (h : off + len ≤ e) (he : e ≤ f.length) :
    readAt (f.take e) off len = readAt f off len := by
  unfold readAt
  rw [if_pos (by rw [List.length_take]; omega), if_pos (by omega), List.drop_take, List.take_take,
    Nat.min_eq_left (by omega)]

theorem readAt_of_le {f : Bytes} {off len : Nat} (h : off + len ≤ f.length) :
    readAt f off len = some ((f.drop off).take len) := if_pos h

theorem readAt_append (f g : Bytes) (off len : Nat) (b : Bytes) (h : readAt f off len = some b) :
    readAt (f ++ g) off len = some b := by
  unfold readAt at h
  split at h
  · next hle =>
    rw [← readAt_take (f ++ g) f.length off len hle (by rw [List.length_append]; omega),
      List.take_left']
    · unfold readAt; rw [if_pos hle]; exact h
    · rfl
  · cases h

theorem readAt_mid (a b c : Bytes) : readAt (a ++ b ++ c) a.length b.length = some b := by
  unfold readAt
  rw [if_pos (by simp only [List.length_append]; omega), List.append_assoc, List.drop_left,
    List.take_left]

theorem readAt_split (f : Bytes) (off n m : Nat) (b : Bytes)
    (h : readAt f off (n + m) = some b) :
    readAt f off n = some (b.take n) ∧ readAt f (off + n) m = some (b.drop n) := by
  unfold readAt at h ⊢
  split at h
  · next hle =>
    injection h with h
    subst h
    rw [if_pos (by omega), if_pos (by omega)]
    refine ⟨?_, ?_⟩
    · rw [List.take_take, Nat.min_eq_left (Nat.le_add_right n m)]
    · rw [List.drop_take, List.drop_drop, Nat.add_sub_cancel_left]
  · cases h

theorem writeAt_nil (f : Bytes) (off : Nat) : writeAt f off [] = f := by
  unfold writeAt
  simp

theorem length_writeAt (f b : Bytes) (off : Nat) (hf : off ≤ f.length) :
    (writeAt f off b).length = max f.length (off + b.length) := by
  unfold writeAt
  simp only [List.length_append, List.length_take, List.length_drop]
  omega

theorem length_writeAt_ge (f b : Bytes) (off : Nat) : f.length ≤ (writeAt f off b).length := by
  unfold writeAt
  simp only [List.length_append, List.length_take, List.length_drop]
  omega

theorem take_writeAt (f b : Bytes) (off E : Nat) (h : E ≤ off) (hf : E ≤ f.length) :
    (writeAt f off b).take E = f.take E := by
  unfold writeAt
  rw [List.append_assoc, List.take_append_of_le_length (by rw [List.length_take]; omega),
    List.take_take, Nat.min_eq_left h]

theorem writeAt_end (f b : Bytes) : writeAt f f.length b = f ++ b := by
  unfold writeAt
  rw [List.take_length, List.drop_eq_nil_of_le (by omega), List.append_nil]

theorem writeAt_append (f : Bytes) (off : Nat) (a b : Bytes) (h : off ≤ f.length) :
    writeAt (writeAt f off a) (off + a.length) b = writeAt f off (a ++ b) := by
  have hA : (f.take off ++ a).length = off + a.length := by
    rw [List.length_append, List.length_take, Nat.min_eq_left h]
  unfold writeAt
  rw [List.take_left' hA, ← hA, List.drop_length_add_append, List.drop_drop, hA,
    List.length_append]
  simp only [List.append_assoc, Nat.add_assoc]

theorem be_length (w n : Nat) : (be w n).length = w := by
  induction w generalizing n with
  | zero => rfl
  | succ w ih => unfold be; rw [List.length_append, ih]; rfl

theorem encPloc_length (p : Option Ploc) : (encPloc p).length = 12 := by
  cases p <;> (unfold encPloc; rw [List.length_append, be_length, be_length])

theorem encNode_length (n : NodeRec) : (encNode n).length = nodeRecLen := by
  unfold encNode nodeRecLen
  simp only [List.length_append, be_length, encPloc_length]

theorem encItemHdrKey_length (i : Item) : (encItemHdrKey i).length = itemHdrLen + i.key.length := by
  unfold encItemHdrKey itemHdrLen
  simp only [List.length_append, be_length]

theorem encItem_length (i : Item) : (encItem i).length = itemRecLen i := by
  unfold encItem itemRecLen
  rw [List.length_append, encItemHdrKey_length]

/- A decoder in `do` notation returns `some` iff every step does: `Option.bind_eq_some_iff` for a
   read, `Option.ite_none_left_eq_some` for a check. -/

theorem decNode_eq_some (f : Bytes) (loc : Ploc) (n : NodeRec) :
    decNode f loc = some n ↔
      loc.len = nodeRecLen ∧ ∃ b, readAt f loc.off nodeRecLen = some b ∧ decNodeBytes b = n := by
  simp only [decNode, Option.bind_eq_bind, Option.bind_none, Option.bind_eq_some_iff,
    Option.ite_none_left_eq_some, Option.some.injEq, ne_eq, Decidable.not_not]

theorem decItem_eq_some (f : Bytes) (loc : Ploc) (i : Item) :
    decItem f loc = some i ↔
      ¬ loc.len < itemHdrLen ∧ ∃ h, readAt f loc.off itemHdrLen = some h ∧
        unbe (h.take 4) = (itemHdrLen + i.key.length + i.val.length) % 4294967296 ∧
        unbe ((h.drop 4).take 4) = i.key.length ∧ unbe ((h.drop 8).take 4) = i.val.length ∧
        unbe ((h.drop 12).take 4) = i.prio ∧
        readAt f (loc.off + itemHdrLen) i.key.length = some i.key ∧
        readAt f (loc.off + itemHdrLen + i.key.length) i.val.length = some i.val := by
  simp only [decItem, Option.bind_eq_bind, Option.bind_none, Option.bind_eq_some_iff,
    Option.ite_none_left_eq_some, Option.some.injEq, ne_eq, Decidable.not_not]
  -- the decoder reads as many bytes as the header's fields say, and these are then the lengths of
  -- the key and the value it returns
  constructor
  · rintro ⟨h0, h, r1, e1, k, r2, v, r3, rfl⟩
    refine ⟨h0, h, r1, ?_⟩
    dsimp only
    rw [readAt_length r2, readAt_length r3]
    exact ⟨e1, rfl, rfl, rfl, r2, r3⟩
  · rintro ⟨h0, h, r1, e1, e2, e3, e4, r2, r3⟩
    refine ⟨h0, h, r1, ?_⟩
    rw [e2, e3, e4]
    exact ⟨e1, i.key, r2, i.val, r3, rfl⟩

/-- `rootAt` without the `do` notation (which elaborates to nested join points): the 24 bytes below
    `e` are read and checked, then the record they point at -/
theorem rootAt_eq (f : Bytes) (e : Nat) :
    rootAt f e =
      if e ≤ rootsLen then none else
      (readAt f (e - rootsEndLen) rootsEndLen).bind fun tail =>
        if (tail.drop 12).take 6 ≠ magicEnd ∨ tail.drop 18 ≠ magicEnd then none else
        if ¬ (unbe (tail.take 8) < 9223372036854775808 ∧ unbe (tail.take 8) + rootsLen < e ∧
              unbe ((tail.drop 8).take 4) = (e - unbe (tail.take 8)) % 4294967296) then none else
        (readAt f (unbe (tail.take 8)) (e - unbe (tail.take 8) - rootsEndLen)).bind fun data =>
          if data.take 6 ≠ magicBeg ∨ (data.drop 6).take 6 ≠ magicBeg then none else
          if unbe ((data.drop 12).take 4) ≠ fmtVersion ∨
              unbe ((data.drop 16).take 4) ≠ unbe ((tail.drop 8).take 4) then none else
          decJson (data.drop 20) := by
  unfold rootAt
  simp only [bind, Option.bind]

theorem rootAt_congr_reads (f g : Bytes) (e : Nat)
    (h : ∀ off len, off + len ≤ e → readAt f off len = readAt g off len) : rootAt f e = rootAt g e := by
  rw [rootAt_eq, rootAt_eq]
  by_cases he : e ≤ rootsLen
  · rw [if_pos he, if_pos he]
  · rw [if_neg he, if_neg he, h _ _ (by unfold rootsLen at he; unfold rootsEndLen; omega)]
    refine congrArg _ (funext fun tail => ?_)
    by_cases h1 : (tail.drop 12).take 6 ≠ magicEnd ∨ tail.drop 18 ≠ magicEnd
    · rw [if_pos h1, if_pos h1]
    · rw [if_neg h1, if_neg h1]
      by_cases hc : ¬ (unbe (tail.take 8) < 9223372036854775808 ∧ unbe (tail.take 8) + rootsLen < e ∧
              unbe ((tail.drop 8).take 4) = (e - unbe (tail.take 8)) % 4294967296)
      · rw [if_pos hc, if_pos hc]
      · rw [if_neg hc, if_neg hc,
          h _ _ (by have := (Classical.not_not.mp hc).2.1; unfold rootsLen at this; omega)]

theorem rootAt_le_rootsLen (f : Bytes) (e : Nat) (h : e ≤ rootsLen) : rootAt f e = none := by
  rw [rootAt_eq, if_pos h]

#print axioms readAt_take
#print axioms take_writeAt
#print axioms length_writeAt

end Gkv
