/-
Proofs about the backward root scan (`scanRoots`) that `NewStore` and `FlushRevert` perform:
`rootAt f e` inspects only the bytes below `e`; the scan returns the greatest valid root end
`≤ sz` (or reports that there is none); crash atomicity at the level of the scan; and what
`openStore` / `revertStore` therefore do.
-/
import Gkv.Proofs.Bytes
import Gkv.Model.Store
namespace Gkv

theorem rootAt_congr (f g : Bytes) (e : Nat) (hf : e ≤ f.length) (hg : e ≤ g.length)
    (h : f.take e = g.take e) : rootAt f e = rootAt g e :=
  rootAt_congr_reads f g e fun off len hl => by
    rw [← readAt_take f e off len hl hf, ← readAt_take g e off len hl hg, h]

theorem rootAt_le_length (f : Bytes) (e : Nat) (roots : List (Bytes × Option Ploc))
    (h : rootAt f e = some roots) : e ≤ f.length ∧ rootsLen < e := by
  rw [rootAt_eq] at h
  obtain ⟨he, h⟩ := Option.ite_none_left_eq_some.mp h
  obtain ⟨tail, ht, -⟩ := Option.bind_eq_some_iff.mp h
  unfold readAt at ht
  obtain ⟨hle, -⟩ := Option.ite_none_right_eq_some.mp ht
  exact ⟨Nat.le_trans (Nat.sub_le_iff_le_add.mp (Nat.le_refl _)) hle, Nat.lt_of_not_le he⟩

theorem scanRoots_zero (f : Bytes) (dflt : Bool) :
    scanRoots f dflt 0 = (if dflt then .empty else .noRoots) := rfl

theorem scanRoots_succ (f : Bytes) (dflt : Bool) (sz : Nat) :
    scanRoots f dflt (sz + 1) =
      if sz + 1 ≤ rootsLen then (if dflt then .empty else .noRoots)
      else match rootAt f (sz+1) with
        | some roots => .found (sz+1) roots
        | none => scanRoots f dflt sz := rfl

theorem scanRoots_small (f : Bytes) (dflt : Bool) (sz : Nat) (h : sz ≤ rootsLen) :
    scanRoots f dflt sz = (if dflt then .empty else .noRoots) := by
  cases sz with
  | zero => rfl
  | succ n => rw [scanRoots_succ, if_pos h]

theorem scanRoots_succ_some (f : Bytes) (dflt : Bool) (sz : Nat) (roots)
    (h : rootAt f (sz + 1) = some roots) : scanRoots f dflt (sz + 1) = .found (sz + 1) roots := by
  have := (rootAt_le_length f _ _ h).2
  rw [scanRoots_succ, if_neg (by omega), h]

theorem scanRoots_succ_none (f : Bytes) (dflt : Bool) (sz : Nat)
    (h : rootAt f (sz + 1) = none) : scanRoots f dflt (sz + 1) = scanRoots f dflt sz := by
  rw [scanRoots_succ]
  by_cases hs : sz + 1 ≤ rootsLen
  · rw [if_pos hs, scanRoots_small f dflt sz (by omega)]
  · rw [if_neg hs, h]

theorem scanRoots_spec (f : Bytes) (dflt : Bool) (sz : Nat) :
    (∃ e roots, scanRoots f dflt sz = .found e roots ∧ e ≤ sz ∧ rootAt f e = some roots ∧
        ∀ e', e < e' → e' ≤ sz → rootAt f e' = none) ∨
    (scanRoots f dflt sz = (if dflt then .empty else .noRoots) ∧
        ∀ e', e' ≤ sz → rootAt f e' = none) := by
  induction sz with
  | zero => exact .inr ⟨rfl, fun e' he => rootAt_le_rootsLen f e' (by omega)⟩
  | succ n ih =>
    cases hr : rootAt f (n + 1) with
    | some r =>
      exact .inl ⟨n + 1, r, scanRoots_succ_some f dflt n r hr, Nat.le_refl _, hr, fun e' h1 h2 => by omega⟩
    | none =>
      have step : ∀ e', e' ≤ n + 1 → (e' ≤ n → rootAt f e' = none) → rootAt f e' = none :=
        fun e' he h => (Nat.lt_or_eq_of_le he).elim (fun hl => h (Nat.le_of_lt_succ hl)) (· ▸ hr)
      rw [scanRoots_succ_none f dflt n hr]
      rcases ih with ⟨e, roots, hs, he, hre, hmax⟩ | ⟨hs, hall⟩
      · exact .inl ⟨e, roots, hs, Nat.le_succ_of_le he, hre, fun e' h1 h2 => step e' h2 (hmax e' h1)⟩
      · exact .inr ⟨hs, fun e' he => step e' he (hall e')⟩

theorem scanRoots_found (f : Bytes) (dflt : Bool) (sz e : Nat) (roots : List (Bytes × Option Ploc))
    (h : scanRoots f dflt sz = .found e roots) :
    rootsLen < e ∧ e ≤ sz ∧ rootAt f e = some roots ∧
      ∀ e', e < e' → e' ≤ sz → rootAt f e' = none := by
  rcases scanRoots_spec f dflt sz with ⟨e2, r2, hs, he, hr, hmax⟩ | ⟨hs, _⟩
  · rw [hs] at h
    cases h
    exact ⟨(rootAt_le_length f _ _ hr).2, he, hr, hmax⟩
  · rw [hs] at h; cases dflt <;> cases h

theorem scanRoots_of_no_root (f : Bytes) (dflt : Bool) (sz : Nat)
    (h : ∀ e', e' ≤ sz → rootAt f e' = none) :
    scanRoots f dflt sz = (if dflt then .empty else .noRoots) := by
  rcases scanRoots_spec f dflt sz with ⟨e, r, _, he, hr, _⟩ | ⟨hs, _⟩
  · rw [h e he] at hr; cases hr
  · exact hs

theorem scanRoots_none (f : Bytes) (dflt : Bool) (sz : Nat)
    (h : scanRoots f dflt sz = .empty ∨ scanRoots f dflt sz = .noRoots) :
    (∀ e', e' ≤ sz → rootAt f e' = none) ∧ (scanRoots f dflt sz = .empty ↔ dflt = true) := by
  rcases scanRoots_spec f dflt sz with ⟨e, r, hs, _⟩ | ⟨hs, hall⟩
  · rw [hs] at h; rcases h with h | h <;> cases h
  · refine ⟨hall, ?_⟩
    rw [hs]
    cases dflt <;> simp

theorem scanRoots_complete (f : Bytes) (dflt : Bool) (sz e : Nat) (roots : List (Bytes × Option Ploc))
    (he : e ≤ sz) (hr : rootAt f e = some roots)
    (hmax : ∀ e', e < e' → e' ≤ sz → rootAt f e' = none) :
    scanRoots f dflt sz = .found e roots := by
  rcases scanRoots_spec f dflt sz with ⟨e2, r2, hs, he2, hr2, hmax2⟩ | ⟨_, hall⟩
  · -- two greatest valid ends are the same end
    have : e2 = e := by
      rcases Nat.lt_trichotomy e2 e with hlt | heq | hgt
      · rw [hmax2 e hlt he] at hr; cases hr
      · exact heq
      · rw [hmax e2 hgt he2] at hr2; cases hr2
    subst this
    rw [hs, hr.symm.trans hr2 |> Option.some.inj]
  · rw [hall e he] at hr; cases hr

theorem scan_crash_atomic (f g : Bytes) (E : Nat) (roots : List (Bytes × Option Ploc))
    (hE : rootAt f E = some roots) (hgE : E ≤ g.length) (hpre : g.take E = f.take E)
    (hjunk : ∀ e', E < e' → e' ≤ g.length → rootAt g e' = none) (dflt : Bool) :
    scanRoots g dflt g.length = .found E roots := by
  have hfE := (rootAt_le_length f E roots hE).1
  have hg : rootAt g E = some roots := by
    rw [rootAt_congr g f E hgE hfE hpre]; exact hE
  exact scanRoots_complete g dflt g.length E roots hgE hg hjunk

theorem scanRoots_revert (f : Bytes) (E E' : Nat) (roots' : List (Bytes × Option Ploc))
    (hE : rootsLen < E) (hlt : E' < E) (hr : rootAt f E' = some roots')
    (hbetween : ∀ e', E' < e' → e' < E → rootAt f e' = none) :
    scanRoots f true (E - 1) = .found E' roots' := by
  have _ := hE   -- not needed: `rootsLen < E' < E` already follows from `hr`
  exact scanRoots_complete f true (E - 1) E' roots' (by omega) hr
    (fun e' h1 h2 => hbetween e' h1 (by omega))

/-- `NewStore` on any surviving image `g` of a file whose last valid root ends at `E`. -/
theorem openStore_crash_atomic (f g : Bytes) (E : Nat) (roots : List (Bytes × Option Ploc))
    (hE : rootAt f E = some roots) (hgE : E ≤ g.length) (hpre : g.take E = f.take E)
    (hjunk : ∀ e', E < e' → e' ≤ g.length → rootAt g e' = none)
    (fid : Nat) (cmpOf : Bytes → CmpKind) :
    openStore fid g cmpOf =
      match loadColls g cmpOf roots with
      | some cs => .ok ⟨some fid, E, cs, false⟩
      | none => .corrupt := by
  have hlen := (rootAt_le_length f E roots hE).2
  unfold openStore
  rw [if_neg (by omega), scan_crash_atomic f g E roots hE hgE hpre hjunk false]
  rfl

/-- `NewStore` on a non-empty file without any valid root end reports "no roots". -/
theorem openStore_no_roots (g : Bytes) (hne : g.length ≠ 0)
    (h : ∀ e', e' ≤ g.length → rootAt g e' = none) (fid : Nat) (cmpOf : Bytes → CmpKind) :
    openStore fid g cmpOf = .noRoots := by
  unfold openStore
  rw [if_neg hne, scanRoots_of_no_root g false _ h]
  rfl

/-- `FlushRevert`: `E` is the end of the most recent root record at or below `st.size` (after a
    failed Flush `st.size` may lie beyond it); the store goes to the greatest valid end `E'`
    strictly below `E` and the file is truncated there. -/
theorem revertStore_prev (st : Store) (fid : Nat) (f : Bytes) (cmpOf : Bytes → CmpKind)
    (E : Nat) (rootsE : List (Bytes × Option Ploc))
    (hcur : rootAt f E = some rootsE) (hEle : E ≤ st.size)
    (habove : ∀ e', E < e' → e' ≤ st.size → rootAt f e' = none)
    (E' : Nat) (roots' : List (Bytes × Option Ploc))
    (hlt : E' < E) (hr : rootAt f E' = some roots')
    (hbetween : ∀ e', E' < e' → e' < E → rootAt f e' = none) :
    revertStore st fid f cmpOf =
      match loadColls f cmpOf roots' with
      | some cs => some ({ st with size := E', colls := cs, file := some fid },
                         if st.readOnly then f else f.take E')
      | none => none := by
  have hE : rootsLen < E := (rootAt_le_length f E rootsE hcur).2
  unfold revertStore
  rw [scanRoots_complete f true st.size E rootsE hEle hcur habove]
  simp only [if_pos hE]
  rw [scanRoots_revert f E E' roots' hE hlt hr hbetween]
  rfl

/-- the case C08 is about: `size` is exactly the end of the most recent root record -/
theorem revertStore_prev_at_end (st : Store) (fid : Nat) (f : Bytes) (cmpOf : Bytes → CmpKind)
    (rootsE : List (Bytes × Option Ploc)) (hcur : rootAt f st.size = some rootsE)
    (E' : Nat) (roots' : List (Bytes × Option Ploc))
    (hlt : E' < st.size) (hr : rootAt f E' = some roots')
    (hbetween : ∀ e', E' < e' → e' < st.size → rootAt f e' = none) :
    revertStore st fid f cmpOf =
      match loadColls f cmpOf roots' with
      | some cs => some ({ st with size := E', colls := cs, file := some fid },
                         if st.readOnly then f else f.take E')
      | none => none :=
  revertStore_prev st fid f cmpOf st.size rootsE hcur (Nat.le_refl _)
    (fun e' h1 h2 => by omega) E' roots' hlt hr hbetween

/-- `FlushRevert` empties the store when there is no valid root end at or below `st.size`, or
    when the most recent one `E` has no valid end strictly below it. -/
theorem revertStore_none (st : Store) (fid : Nat) (f : Bytes) (cmpOf : Bytes → CmpKind)
    (h : (∀ e', e' ≤ st.size → rootAt f e' = none) ∨
         (∃ E rootsE, rootAt f E = some rootsE ∧ E ≤ st.size ∧
            (∀ e', E < e' → e' ≤ st.size → rootAt f e' = none) ∧
            ∀ e', e' < E → rootAt f e' = none)) :
    revertStore st fid f cmpOf =
      some ({ st with size := 0, colls := [], file := some fid },
            if st.readOnly then f else []) := by
  unfold revertStore
  rcases h with h | ⟨E, rootsE, hcur, hEle, habove, hbelow⟩
  · -- the first scan finds nothing, so the second starts at 0 and answers at once
    rw [scanRoots_of_no_root f true st.size h]
    rfl
  · have hgt : E > rootsLen := (rootAt_le_length f E rootsE hcur).2
    rw [scanRoots_complete f true st.size E rootsE hEle hcur habove]
    simp only [if_pos hgt]
    rw [scanRoots_of_no_root f true (E - 1) (fun e' he => hbelow e' (by omega))]
    rfl

#print axioms rootAt_congr
#print axioms rootAt_le_length
#print axioms scanRoots_found
#print axioms scanRoots_none
#print axioms scanRoots_complete
#print axioms scan_crash_atomic
#print axioms scanRoots_revert
#print axioms openStore_crash_atomic
#print axioms openStore_no_roots
#print axioms revertStore_prev
#print axioms revertStore_prev_at_end
#print axioms revertStore_none
end Gkv
