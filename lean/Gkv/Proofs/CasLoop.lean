/-
Proofs about Model CasLoop (`Gkv.Model.CasLoop`): property C12 — the optimistic CAS loop loses no
update and applies none twice, for any number of threads, any programs, any schedule; the seeded
variant C12b (compare against the pointer current at CAS time) does lose updates.
-/
import Gkv.Model.CasLoop

namespace Gkv.CasLoop

variable {ι α : Type}

theorem applyAll_snoc (apply : ι → α → α) (is : List ι) (i : ι) (a : α) :
    applyAll apply (is ++ [i]) a = apply i (applyAll apply is a) := by
  simp [applyAll, List.foldl_append]

theorem pendingAt_of_get {ths : List (Thread ι α)} {t : Nat} {th : Thread ι α}
    (h : ths[t]? = some th) : pendingAt ths t = th.pending := by
  simp [pendingAt, h]

theorem pendingAt_set {ths : List (Thread ι α)} {t : Nat} {th : Thread ι α}
    (h : ths[t]? = some th) (th' : Thread ι α) (t' : Nat) :
    pendingAt (ths.set t th') t' = if t = t' then th'.pending else pendingAt ths t' := by
  have hlt : t < ths.length := (List.getElem?_eq_some_iff.1 h).1
  unfold pendingAt
  rw [List.getElem?_set, if_pos hlt]
  by_cases e : t = t'
  · rw [if_pos e, if_pos e]
  · rw [if_neg e, if_neg e]

theorem pendingAt_set_loc {ths : List (Thread ι α)} {t : Nat} {th : Thread ι α}
    (h : ths[t]? = some th) (loc : Local α) (t' : Nat) :
    pendingAt (ths.set t { th with loc := loc }) t' = pendingAt ths t' := by
  rw [pendingAt_set h]
  split
  · next e => rw [← e, pendingAt_of_get h]
  · rfl

theorem publishedBy_snoc (s : State ι α) (t t' : Nat) (i : ι) :
    State.publishedBy { s with log := s.log ++ [(t, i)] } t' =
      s.publishedBy t' ++ if t = t' then [i] else [] := by
  by_cases h : t = t' <;> simp [State.publishedBy, List.filter_append, h]

/-- what a thread knows of the cell does not mislead it: a snapshot is never newer than the cell, and is
accurate while its version is current (this is what a successful compare-and-swap against the pointer that
was read establishes) -/
def Sound (cell : Cell α) : Local α → Prop
  | .idle => True
  | .read ver v => ver ≤ cell.ver ∧ (ver = cell.ver → v = cell.val)

theorem Sound.read (cell : Cell α) : Sound cell (.read cell.ver cell.val) :=
  ⟨Nat.le_refl _, fun _ => rfl⟩

/-- a publish keeps `Sound`: every snapshot is older than the new cell, so nothing is claimed about its value -/
theorem Sound.bump {cell : Cell α} {l : Local α} (h : Sound cell l) (v : α) :
    Sound ⟨cell.ver + 1, v⟩ l := by
  cases l with
  | idle => trivial
  | read ver w =>
    exact ⟨Nat.le_succ_of_le h.1, fun e => absurd (e ▸ h.1) (Nat.not_succ_le_self _)⟩

structure Inv (apply : ι → α → α) (a : α) (progs : List (List ι)) (s : State ι α) : Prop where
  val_eq : s.cell.val = applyAll apply s.published a
  snap : ∀ th ∈ s.threads, Sound s.cell th.loc
  proj : ∀ t, s.publishedBy t ++ s.pendingOf t = progOf progs t

theorem inv_init (apply : ι → α → α) (a : α) (progs : List (List ι)) :
    Inv apply a progs (init a progs) where
  val_eq := rfl
  snap := by
    intro th hth
    obtain ⟨p, _, rfl⟩ := List.mem_map.1 hth
    trivial
  proj := by
    intro t
    simp only [State.publishedBy, State.pendingOf, init, pendingAt, progOf, List.getElem?_map]
    cases progs[t]? <;> simp

section step
variable {apply : ι → α → α} {a : α} {progs : List (List ι)} {s : State ι α} {t : Nat}

/-- thread `t` takes a sound snapshot or drops the one it has: doRead, and a compare-and-swap that fails -/
theorem Inv.move {th : Thread ι α} {l : Local α} (h : Inv apply a progs s)
    (hget : s.threads[t]? = some th) (hl : Sound s.cell l) :
    Inv apply a progs { s with threads := s.threads.set t { th with loc := l } } where
  val_eq := h.val_eq
  snap th' hth' := by
    rcases List.mem_or_eq_of_mem_set hth' with hth' | rfl
    · exact h.snap th' hth'
    · exact hl
  proj t' := (congrArg _ (pendingAt_set_loc hget l t')).trans (h.proj t')

/-- a compare-and-swap that succeeds: the snapshot has the cell's version, hence the cell's value -/
theorem Inv.publish {i : ι} {rest : List ι} {v : α} (h : Inv apply a progs s)
    (hget : s.threads[t]? = some ⟨i :: rest, .read s.cell.ver v⟩) :
    Inv apply a progs
      { cell := ⟨s.cell.ver + 1, apply i v⟩
        threads := s.threads.set t ⟨rest, .idle⟩
        log := s.log ++ [(t, i)] } where
  val_eq := by
    show apply i v = applyAll apply (List.map Prod.snd (s.log ++ [(t, i)])) a
    rw [List.map_append, List.map_singleton, applyAll_snoc,
      (h.snap _ (List.mem_of_getElem? hget)).2 rfl, h.val_eq]
    rfl
  snap th' hth' := by
    rcases List.mem_or_eq_of_mem_set hth' with hth' | rfl
    · exact (h.snap th' hth').bump _
    · trivial
  proj t' := by
    rw [← h.proj t']
    show State.publishedBy { s with log := s.log ++ [(t, i)] } t' ++ pendingAt _ t' = _
    rw [publishedBy_snoc, pendingAt_set hget]
    split
    next e => rw [← e, State.pendingOf, pendingAt_of_get hget, List.append_assoc]; rfl
    · rw [List.append_nil]; rfl

theorem inv_step (h : Inv apply a progs s) (t : Nat) :
    Inv apply a progs (step false apply s t) := by
  unfold step
  split
  · exact h
  next th hget =>
    split
    · exact h
    next i rest hpend =>
      split
      · exact h.move hget (.read _)
      next ver v hloc =>
        split
        next hcas =>
          obtain rfl : s.cell.ver = ver := by simpa using hcas
          exact h.publish (by rw [hget, ← hpend, ← hloc])
        · exact h.move hget trivial

end step

theorem inv_run {apply : ι → α → α} {a : α} {progs : List (List ι)} (sched : List Nat)
    {s : State ι α} (h : Inv apply a progs s) : Inv apply a progs (run false apply s sched) :=
  List.foldlRecOn sched _ h fun _ h t _ => inv_step h t

theorem inv_reachable (apply : ι → α → α) (a : α) (progs : List (List ι)) (sched : List Nat) :
    Inv apply a progs (run false apply (init a progs) sched) :=
  inv_run sched (inv_init apply a progs)

/-- **1.** The value of the cell is exactly the published updates, applied in publication order to
the initial value: nothing is lost, nothing is applied twice. -/
theorem no_lost_update (apply : ι → α → α) (a : α) (progs : List (List ι)) (sched : List Nat) :
    (run false apply (init a progs) sched).cell.val =
      ((run false apply (init a progs) sched).log.map Prod.snd).foldl (fun a i => apply i a) a :=
  (inv_reachable apply a progs sched).val_eq

/-- **2.** For every thread `t`: the sub-list of the log that belongs to `t`, followed by the
updates `t` has not yet published, is `t`'s original program.  (For `t` out of range all three are
`[]`: the log mentions no unknown thread.) -/
theorem log_is_interleaving (apply : ι → α → α) (a : α) (progs : List (List ι)) (sched : List Nat)
    (t : Nat) :
    ((run false apply (init a progs) sched).log.filter (fun e => e.1 == t)).map Prod.snd ++
        (run false apply (init a progs) sched).pendingOf t =
      progs[t]?.getD [] :=
  (inv_reachable apply a progs sched).proj t

/-- **3.** If every thread has emptied its pending list, the log is an interleaving of all the
programs (its projection on every thread `t` is the program of `t`, `[]` for unknown `t`), and the
value of the cell is that interleaving applied to the initial value. -/
theorem all_applied_when_done (apply : ι → α → α) (a : α) (progs : List (List ι))
    (sched : List Nat) (hdone : (run false apply (init a progs) sched).done) :
    (∀ t, ((run false apply (init a progs) sched).log.filter (fun e => e.1 == t)).map Prod.snd =
        progs[t]?.getD []) ∧
    (run false apply (init a progs) sched).cell.val =
      ((run false apply (init a progs) sched).log.map Prod.snd).foldl (fun a i => apply i a) a := by
  refine ⟨fun t => ?_, no_lost_update apply a progs sched⟩
  have := log_is_interleaving apply a progs sched t
  rw [hdone t, List.append_nil] at this
  exact this

theorem log_threads_known (apply : ι → α → α) (a : α) (progs : List (List ι)) (sched : List Nat) :
    ∀ e ∈ (run false apply (init a progs) sched).log, e.1 < progs.length := by
  intro e he
  apply Classical.byContradiction
  intro hge
  have h := log_is_interleaving apply a progs sched e.1
  rw [List.getElem?_eq_none (Nat.le_of_not_lt hge)] at h
  have hnil := (List.append_eq_nil_iff.1 h).1
  have : e.2 ∈ ((run false apply (init a progs) sched).log.filter
      (fun e' => e'.1 == e.1)).map Prod.snd :=
    List.mem_map.2 ⟨e, List.mem_filter.2 ⟨he, by simp⟩, rfl⟩
  rw [hnil] at this
  cases this

/-- doRead -/
theorem step_read {apply : ι → α → α} {s : State ι α} {t : Nat} {i : ι} {rest : List ι}
    (hget : s.threads[t]? = some ⟨i :: rest, .idle⟩) :
    step false apply s t =
      { s with threads := s.threads.set t ⟨i :: rest, .read s.cell.ver s.cell.val⟩ } := by
  simp [step, hget]

/-- doCas against the pointer that was read, pointer unchanged: publish -/
theorem step_cas_ok {apply : ι → α → α} {s : State ι α} {t : Nat} {i : ι} {rest : List ι}
    {ver : Nat} {v : α} (hget : s.threads[t]? = some ⟨i :: rest, .read ver v⟩)
    (hver : s.cell.ver = ver) :
    step false apply s t =
      { cell := ⟨s.cell.ver + 1, apply i v⟩
        threads := s.threads.set t ⟨rest, .idle⟩
        log := s.log ++ [(t, i)] } := by
  simp [step, hget, hver]

/-- doCas against the pointer that was read, pointer changed: retry, nothing published -/
theorem step_cas_fail {apply : ι → α → α} {s : State ι α} {t : Nat} {i : ι} {rest : List ι}
    {ver : Nat} {v : α} (hget : s.threads[t]? = some ⟨i :: rest, .read ver v⟩)
    (hver : s.cell.ver ≠ ver) :
    step false apply s t = { s with threads := s.threads.set t ⟨i :: rest, .idle⟩ } := by
  simp [step, hget, hver]

/-- **4.** Lock-freedom of a solo run: from ANY state (no invariant needed) in which thread `t` is
idle and has head update `i`, the schedule `[t, t]` publishes `i` on top of the current value. -/
theorem progress (apply : ι → α → α) (s : State ι α) (t : Nat) (i : ι) (rest : List ι)
    (hget : s.threads[t]? = some ⟨i :: rest, .idle⟩) :
    run false apply s [t, t] =
      { cell := ⟨s.cell.ver + 1, apply i s.cell.val⟩
        threads := s.threads.set t ⟨rest, .idle⟩
        log := s.log ++ [(t, i)] } := by
  have hlt : t < s.threads.length := (List.getElem?_eq_some_iff.1 hget).1
  show step false apply (step false apply s t) t = _
  rw [step_read hget]
  have hget' : (s.threads.set t ⟨i :: rest, .read s.cell.ver s.cell.val⟩)[t]? =
      some ⟨i :: rest, .read s.cell.ver s.cell.val⟩ := by simp [hlt]
  rw [step_cas_ok (s := { s with threads := _ }) hget' rfl]
  simp

/-- A thread holding a stale snapshot needs one more step: its CAS fails, then `[t, t]` succeeds. -/
theorem progress_after_retry (apply : ι → α → α) (s : State ι α) (t : Nat) (i : ι)
    (rest : List ι) (ver : Nat) (v : α)
    (hget : s.threads[t]? = some ⟨i :: rest, .read ver v⟩) (hstale : s.cell.ver ≠ ver) :
    run false apply s [t, t, t] =
      { cell := ⟨s.cell.ver + 1, apply i s.cell.val⟩
        threads := s.threads.set t ⟨rest, .idle⟩
        log := s.log ++ [(t, i)] } := by
  have hlt : t < s.threads.length := (List.getElem?_eq_some_iff.1 hget).1
  show run false apply (step false apply s t) [t, t] = _
  rw [step_cas_fail hget hstale]
  have hget' : (s.threads.set t ⟨i :: rest, .idle⟩)[t]? = some ⟨i :: rest, .idle⟩ := by
    simp [hlt]
  rw [progress apply { s with threads := _ } t i rest hget']
  simp

theorem done_of_forall {s : State ι α} (h : ∀ th ∈ s.threads, th.pending = []) : s.done := by
  intro t
  rw [State.pendingOf, pendingAt]
  split
  next th hget => exact h th (List.mem_of_getElem? hget)
  · rfl

/-- the concrete instance: the value is a list of names, update `i` inserts name `i` in front -/
def ins : Nat → List Nat → List Nat := fun i a => i :: a

def twoProgs : List (List Nat) := [[10], [20]]

/-- both read, then both publish -/
def raceSched : List Nat := [0, 1, 0, 1]

/-- **5.** Buggy mode (C12b), schedule `[0,1,0,1]`: both publishes "succeed" and are logged, yet
the final value contains only the second one — built from thread 1's stale snapshot `[]` — so the
equation of theorem 1 fails: update `10` is lost. -/
theorem buggy_loses_update :
    let s := run true ins (init [] twoProgs) raceSched
    s.log = [(0, 10), (1, 20)] ∧
    s.done ∧
    s.cell.val = [20] ∧
    applyAll ins s.published [] = [20, 10] ∧
    s.cell.val ≠ (s.log.map Prod.snd).foldl (fun a i => ins i a) [] := by
  exact ⟨by decide, done_of_forall (by decide), by decide, by decide, by decide⟩

/-- The same schedule in correct mode: thread 1's CAS fails (its snapshot has version 0, the cell
version 1), it publishes nothing, keeps its update pending and is back at the top of its loop. -/
theorem correct_mode_retries :
    run false ins (init [] twoProgs) raceSched =
      { cell := ⟨1, [10]⟩
        threads := [⟨[], .idle⟩, ⟨[20], .idle⟩]
        log := [(0, 10)] } := by
  decide

/-- … and its retry then publishes on top of thread 0's update: nothing is lost. -/
theorem correct_mode_retry_succeeds :
    run false ins (init [] twoProgs) (raceSched ++ [1, 1]) =
      { cell := ⟨2, [20, 10]⟩
        threads := [⟨[], .idle⟩, ⟨[], .idle⟩]
        log := [(0, 10), (1, 20)] } := by
  decide

/-- the buggy mode differs from the correct one on this schedule only in the CAS of thread 1 -/
example : run true ins (init [] twoProgs) [0, 1, 0] = run false ins (init [] twoProgs) [0, 1, 0] := by
  decide

/-! Non-vacuity of 1–3: a 3-thread schedule with retries. -/

def threeProgs : List (List Nat) := [[1, 2], [3], [4, 5]]

/-- all three read version 0; thread 1 wins, threads 0 and 2 fail and retry; later thread 2 fails
once more against thread 0 -/
def busySched : List Nat :=
  [0, 1, 2,  1,  0, 2,       -- 1 publishes 3; 0 and 2 fail
   0, 2, 0,  2,              -- 0 publishes 1; 2 fails again
   2, 2,  0, 0,  2, 2]       -- 2 publishes 4; 0 publishes 2; 2 publishes 5

/-- the run really contains failed CAS attempts: 16 steps = 8 doRead + 8 doCas, of which only 5
publish (the version counts the publishes) and 3 fail -/
example : busySched.length = 16 ∧ (run false ins (init [] threeProgs) busySched).cell.ver = 5 := by
  decide

example : (run false ins (init [] threeProgs) busySched).log =
    [(1, 3), (0, 1), (2, 4), (0, 2), (2, 5)] := by decide

/-- theorem 1 instantiated: the value is the log applied in order -/
example : (run false ins (init [] threeProgs) busySched).cell.val = [5, 2, 4, 1, 3] := by
  rw [no_lost_update]; decide

example : (run false ins (init [] threeProgs) busySched).cell.val = [5, 2, 4, 1, 3] := by decide

/-- theorem 2 instantiated in the middle of the run (thread 2 has published nothing yet and is back
at the top of its loop after its second failed CAS; thread 0 has published one of two) -/
example :
    let s := run false ins (init [] threeProgs) (busySched.take 10)
    s.publishedBy 0 = [1] ∧ s.pendingOf 0 = [2] ∧
    s.publishedBy 2 = [] ∧ s.pendingOf 2 = [4, 5] ∧
    s.threads[2]? = some ⟨[4, 5], .idle⟩ ∧ s.cell.ver = 2 := by decide

example : ((run false ins (init [] threeProgs) (busySched.take 10)).log.filter
      (fun e => e.1 == 0)).map Prod.snd ++
    (run false ins (init [] threeProgs) (busySched.take 10)).pendingOf 0 = [1, 2] :=
  log_is_interleaving ins [] threeProgs (busySched.take 10) 0

/-- theorem 3 instantiated: its hypothesis `done` is satisfiable -/
theorem busy_done : (run false ins (init [] threeProgs) busySched).done :=
  done_of_forall (by decide)

example :
    (∀ t, ((run false ins (init [] threeProgs) busySched).log.filter
        (fun e => e.1 == t)).map Prod.snd = threeProgs[t]?.getD []) ∧
    (run false ins (init [] threeProgs) busySched).cell.val = [5, 2, 4, 1, 3] := by
  have h := all_applied_when_done ins [] threeProgs busySched busy_done
  refine ⟨h.1, ?_⟩
  rw [h.2]; decide

/-- … and `done` is not automatic: it fails before the end of the run -/
example : ¬ (run false ins (init [] threeProgs) (busySched.take 10)).done := by
  intro h
  exact absurd (h 0) (by decide)

#print axioms no_lost_update
#print axioms log_is_interleaving
#print axioms all_applied_when_done
#print axioms progress
#print axioms buggy_loses_update
#print axioms correct_mode_retries

end Gkv.CasLoop
