/-
Property C19 — proofs about the read log of `Gkv/Model/Lazy.lean`: opening a file that ends in a
root record reads `Stat`, the 24-byte tail and the rest of that one record, nothing else; a
key-only item read and a node read never touch a value byte of any record they do not overlap.
-/
import Gkv.Model.Lazy
import Gkv.Proofs.Scan

namespace Gkv.Lazy
open Gkv

/-! ### the scan's reads versus `rootAt` (the validity test of `scanRoots`) -/

/-- the offset field of the 24 bytes below `e` -/
def tailOff (f : Bytes) (e : Nat) : Nat := unbe ((f.drop (e - 24)).take 8)

theorem tailOff_eq (f : Bytes) (e : Nat) :
    unbe (((f.drop (e - rootsEndLen)).take rootsEndLen).take 8) = tailOff f e := by
  unfold tailOff rootsEndLen
  rw [List.take_take]
  rfl

/-- What happens at a candidate position `e`, and how it compares with `rootAt` (the validity test
    of `scanRoots`, whose theorems are in `Proofs/Scan.lean`): beyond the file the tail read fails
    and ends the scan; inside it either the tail is read and rejected — and so does `rootAt` —, or
    it names a record `[offset, e)` with `offset + 44 < e`, the rest of that record is read as
    well, and the scan stops exactly when `rootAt` accepts. -/
theorem readsAt_cases (f : Bytes) (e : Nat) (he : rootsLen < e) :
    (f.length < e ∧ readsAt f e = ([Rd.read (e - 24) 24], true)) ∨
    (e ≤ f.length ∧ readsAt f e = ([Rd.read (e - 24) 24], false) ∧ rootAt f e = none) ∨
    (e ≤ f.length ∧ tailOff f e + rootsLen < e ∧
      readsAt f e = ([Rd.read (e - 24) 24, Rd.read (tailOff f e) (e - tailOff f e - 24)],
        (rootAt f e).isSome)) := by
  have h24 : e - rootsEndLen + rootsEndLen = e := by unfold rootsLen at he; unfold rootsEndLen; omega
  by_cases hf : e ≤ f.length
  · refine .inr ?_
    rw [readsAt, rootAt_eq, if_neg (Nat.not_le_of_lt he), readAt_of_le (h24.symm ▸ hf),
      Option.bind_some]
    simp only [tailOff_eq]
    generalize (f.drop (e - rootsEndLen)).take rootsEndLen = tail
    by_cases h1 : (tail.drop 12).take 6 ≠ magicEnd ∨ tail.drop 18 ≠ magicEnd
    · rw [if_pos h1, if_pos h1]; exact .inl ⟨hf, rfl, rfl⟩
    · rw [if_neg h1, if_neg h1]
      by_cases h2 : ¬ (tailOff f e < 9223372036854775808 ∧ tailOff f e + rootsLen < e ∧
          unbe ((tail.drop 8).take 4) = (e - tailOff f e) % 4294967296)
      · rw [if_pos h2, if_pos h2]; exact .inl ⟨hf, rfl, rfl⟩
      · have h3 := (Decidable.not_not.mp h2).2.1
        rw [if_neg h2, if_neg h2,
          readAt_of_le (by unfold rootsLen at h3; unfold rootsEndLen; omega), Option.bind_some]
        exact .inr ⟨hf, h3, rfl⟩
  · refine .inl ⟨Nat.lt_of_not_le hf, ?_⟩
    rw [readsAt, readAt, if_neg (h24.symm ▸ hf)]
    rfl

/-- At a position inside the file, the scan stops exactly when `rootAt` accepts: the model of the
    reads and `scanRoots` take the same decisions. -/
theorem readsAt_stop_iff (f : Bytes) (e : Nat) (he : rootsLen < e) (hf : e ≤ f.length) :
    (readsAt f e).2 = (rootAt f e).isSome := by
  rcases readsAt_cases f e he with ⟨h, -⟩ | ⟨-, h, h'⟩ | ⟨-, -, h⟩
  · exact absurd hf (Nat.not_le_of_lt h)
  · rw [h, h']; rfl
  · rw [h]

theorem readsAt_of_rootAt (f : Bytes) (e : Nat) (roots : List (Bytes × Option Ploc))
    (h : rootAt f e = some roots) :
    tailOff f e + rootsLen < e ∧
      readsAt f e = ([Rd.read (e - 24) 24, Rd.read (tailOff f e) (e - tailOff f e - 24)], true) := by
  obtain ⟨hf, he⟩ := rootAt_le_length f e roots h
  rcases readsAt_cases f e he with ⟨h', -⟩ | ⟨-, -, h'⟩ | ⟨-, hlt, h'⟩
  · exact absurd hf (Nat.not_le_of_lt h')
  · rw [h] at h'; cases h'
  · exact ⟨hlt, by rw [h', h]; rfl⟩

theorem readsAt_below (f : Bytes) (e : Nat) (he : rootsLen < e) :
    ∀ r ∈ (readsAt f e).1, ∀ off len, r = Rd.read off len → off + len ≤ e := by
  have h24 : e - 24 + 24 ≤ e := by unfold rootsLen at he; omega
  intro r hr off len hrd
  rcases readsAt_cases f e he with ⟨-, h⟩ | ⟨-, h, -⟩ | ⟨-, h', h⟩
  · rw [h] at hr; cases List.mem_singleton.mp hr; cases hrd; exact h24
  · rw [h] at hr; cases List.mem_singleton.mp hr; cases hrd; exact h24
  · rw [h] at hr
    simp only [List.mem_cons, List.not_mem_nil, or_false] at hr
    rcases hr with rfl | rfl
    · cases hrd; exact h24
    · cases hrd; unfold rootsLen at h'; omega

theorem scanReads_unfold (f : Bytes) (e : Nat) (he : rootsLen < e) :
    scanReads f e =
      if (readsAt f e).2 then (readsAt f e).1 else (readsAt f e).1 ++ scanReads f (e - 1) := by
  obtain ⟨sz, rfl⟩ : ∃ sz, e = sz + 1 := ⟨e - 1, by unfold rootsLen at he; omega⟩
  rw [scanReads, if_neg (Nat.not_le_of_lt he)]
  rfl

theorem scanReads_small (f : Bytes) (e : Nat) (he : e ≤ rootsLen) : scanReads f e = [] := by
  cases e with
  | zero => rfl
  | succ sz => rw [scanReads, if_pos he]

theorem scanReads_of_rootAt (f : Bytes) (e : Nat) (roots : List (Bytes × Option Ploc))
    (h : rootAt f e = some roots) :
    scanReads f e = [Rd.read (e - 24) 24, Rd.read (tailOff f e) (e - tailOff f e - 24)] := by
  obtain ⟨_, he⟩ := rootAt_le_length f e roots h
  rw [scanReads_unfold f e he, (readsAt_of_rootAt f e roots h).2]
  rfl

theorem scanReads_of_not_rootAt (f : Bytes) (e : Nat) (he : rootsLen < e) (hf : e ≤ f.length)
    (h : rootAt f e = none) : scanReads f e = (readsAt f e).1 ++ scanReads f (e - 1) := by
  rw [scanReads_unfold f e he, readsAt_stop_iff f e he hf, h]
  rfl

/-- positions that `rootAt` rejects are passed over: started at `sz` inside the file, the scan reads
    what it reads at the rejected positions above `e` and then goes on as if started at `e` -/
theorem scanReads_skip (f : Bytes) (e : Nat) : ∀ sz, e ≤ sz → sz ≤ f.length →
    (∀ e', e < e' → e' ≤ sz → rootAt f e' = none) → ∃ pre, scanReads f sz = pre ++ scanReads f e
  | 0, he, _, _ => ⟨[], by rw [Nat.le_zero.mp he]; rfl⟩
  | n+1, he, hf, hnone => by
    rcases Nat.lt_or_eq_of_le he with hlt | rfl
    · by_cases hs : n + 1 ≤ rootsLen
      · exact ⟨[], by rw [scanReads_small f _ hs, scanReads_small f e (Nat.le_trans he hs)]; rfl⟩
      · obtain ⟨pre, h⟩ := scanReads_skip f e n (Nat.le_of_lt_succ hlt) (Nat.le_of_succ_le hf)
          fun e' h1 h2 => hnone e' h1 (Nat.le_succ_of_le h2)
        refine ⟨(readsAt f (n+1)).1 ++ pre, ?_⟩
        rw [scanReads_of_not_rootAt f (n+1) (Nat.lt_of_not_le hs) hf (hnone _ hlt (Nat.le_refl _)),
          Nat.add_sub_cancel, h, List.append_assoc]
    · exact ⟨[], rfl⟩

/-! ### the theorems of property C19: opening -/

/-- opening a file that ends in a root record reads exactly: `Stat`, the 24-byte tail, and the rest
    of that record `[offset, |f|-24)` — no node record, no item record -/
theorem open_reads_root_only (f : Bytes) (roots : List (Bytes × Option Ploc))
    (h : rootAt f f.length = some roots) :
    openReads f =
      [Rd.stat, Rd.read (f.length - 24) 24,
       Rd.read (unbe ((f.drop (f.length - 24)).take 8))
         (f.length - unbe ((f.drop (f.length - 24)).take 8) - 24)] := by
  obtain ⟨_, he⟩ := rootAt_le_length f f.length roots h
  unfold openReads
  rw [if_neg (by unfold rootsLen at he; omega), scanReads_of_rootAt f f.length roots h]
  rfl

/-- so the number of reads does not depend on how much data the file holds below its last root
    record -/
theorem open_reads_count (f : Bytes) (roots : List (Bytes × Option Ploc))
    (h : rootAt f f.length = some roots) : (openReads f).length = 3 := by
  rw [open_reads_root_only f roots h]; rfl

/-- …and every byte read lies inside that last root record `[offset, |f|)`: the size of what is
    read is the size of the root record, whatever the file holds besides -/
theorem open_reads_within_root (f : Bytes) (roots : List (Bytes × Option Ploc))
    (h : rootAt f f.length = some roots) :
    ∀ r ∈ openReads f, ∀ off len, r = Rd.read off len →
      unbe ((f.drop (f.length - 24)).take 8) ≤ off ∧ off + len ≤ f.length := by
  have hlt := (readsAt_of_rootAt f f.length roots h).1
  unfold tailOff rootsLen at hlt
  rw [open_reads_root_only f roots h]
  intro r hr off len hrd
  simp only [List.mem_cons, List.not_mem_nil, or_false] at hr
  rcases hr with hr | hr | hr
  · subst hr; cases hrd
  · subst hr; cases hrd; omega
  · subst hr; cases hrd; omega

theorem open_reads_empty : openReads [] = [Rd.stat] := rfl

/-- the total number of bytes read when the file ends in a root record is the length of that
    record -/
theorem open_reads_bytes (f : Bytes) (roots : List (Bytes × Option Ploc))
    (h : rootAt f f.length = some roots) :
    ((openReads f).map (fun r => match r with | .stat => 0 | .read _ len => len)).sum =
      f.length - unbe ((f.drop (f.length - 24)).take 8) := by
  have hlt := (readsAt_of_rootAt f f.length roots h).1
  unfold tailOff rootsLen at hlt
  rw [open_reads_root_only f roots h]
  simp only [List.map_cons, List.map_nil, List.sum_cons, List.sum_nil]
  omega

/-- opening in general: `Stat`, then rejected candidates above the root record that `openStore`'s
    scan finds, then the two reads of that record -/
theorem open_reads_general (f : Bytes) (roots : List (Bytes × Option Ploc)) (e : Nat)
    (h : scanRoots f false f.length = .found e roots) :
    ∃ pre, openReads f =
      Rd.stat :: (pre ++ [Rd.read (e - 24) 24, Rd.read (tailOff f e) (e - tailOff f e - 24)]) := by
  obtain ⟨he0, he, hr, hmax⟩ := scanRoots_found f false f.length e roots h
  obtain ⟨pre, hpre⟩ := scanReads_skip f e f.length he (Nat.le_refl _) hmax
  refine ⟨pre, ?_⟩
  unfold openReads
  rw [if_neg (Nat.ne_of_gt (Nat.lt_of_lt_of_le (Nat.zero_lt_of_lt he0) he)), hpre,
    scanReads_of_rootAt f e roots hr]

/-! ### the theorems of property C19: items and nodes -/

theorem not_touches_of_disjoint (off len : Nat) (rng : Nat × Nat)
    (h : rng.1 + rng.2 ≤ off ∨ off + len ≤ rng.1) : ¬ (Rd.read off len).touches rng := by
  rintro ⟨b, h1, h2, h3, h4⟩
  omega

theorem stat_not_touches (rng : Nat × Nat) : ¬ Rd.stat.touches rng := fun h => h

theorem itemReads_false (loc : Ploc) (kl vl : Nat) :
    itemReads loc kl vl false = [Rd.read loc.off itemHdrLen, Rd.read (loc.off + itemHdrLen) kl] := rfl

/-- a key-only item read never touches a value byte of any record that does not overlap this
    record's header+key range `[off, off+16+kl)` -/
theorem keyonly_reads_disjoint (loc : Ploc) (kl vl : Nat) (rng : Nat × Nat)
    (h : rng.1 + rng.2 ≤ loc.off ∨ loc.off + itemHdrLen + kl ≤ rng.1) :
    ∀ r ∈ itemReads loc kl vl false, ¬ r.touches rng := by
  intro r hr
  rw [itemReads_false] at hr
  simp only [List.mem_cons, List.not_mem_nil, or_false] at hr
  rcases hr with hr | hr
  · subst hr
    apply not_touches_of_disjoint
    omega
  · subst hr
    apply not_touches_of_disjoint
    omega

/-- a key-only item read never touches the item's own value bytes -/
theorem keyonly_reads_no_value (loc : Ploc) (kl vl : Nat) :
    ∀ r ∈ itemReads loc kl vl false, ¬ r.touches (valueRange loc kl vl) :=
  keyonly_reads_disjoint loc kl vl (valueRange loc kl vl) (Or.inr (Nat.le_refl _))

/-- a node read touches nothing outside the 52 bytes of the node record -/
theorem node_reads_disjoint (loc : Ploc) (rng : Nat × Nat)
    (h : rng.1 + rng.2 ≤ loc.off ∨ loc.off + nodeRecLen ≤ rng.1) :
    ∀ r ∈ nodeReads loc, ¬ r.touches rng := by
  intro r hr
  unfold nodeReads at hr
  simp only [List.mem_singleton] at hr
  subst hr
  exact not_touches_of_disjoint _ _ _ h

theorem withvalue_reads (loc : Ploc) (kl vl : Nat) :
    itemReads loc kl vl true = itemReads loc kl vl false ++ [Rd.read (loc.off + itemHdrLen + kl) vl] :=
  rfl

/-- with the value requested the value range is read: that read touches it whenever the value is
    non-empty (the model can tell a value-fetching implementation from a lazy one) -/
theorem withvalue_touches_value (loc : Ploc) (kl vl : Nat) (hv : 0 < vl) :
    ∃ r ∈ itemReads loc kl vl true, r.touches (valueRange loc kl vl) :=
  ⟨Rd.read (loc.off + itemHdrLen + kl) vl, List.mem_append_right _ (List.mem_singleton_self _),
    _, Nat.le_refl _, Nat.lt_add_of_pos_right hv, Nat.le_refl _, Nat.lt_add_of_pos_right hv⟩

/-- Whatever is cached or evicted: a key-only traversal (`GetItem`/`MinItem`/`MaxItem`/visits with
    `withValue = false`, `SetItem`, `Delete`) over any path, in any cache state, reads no byte of a
    range `rng` that overlaps neither a node record on the path nor the header+key part of an item
    record on it.  In particular no byte of the path's own values. -/
theorem pathReads_disjoint (p : List Visit) (rng : Nat × Nat)
    (hn : ∀ v ∈ p, rng.1 + rng.2 ≤ v.nodeLoc.off ∨ v.nodeLoc.off + nodeRecLen ≤ rng.1)
    (hi : ∀ v ∈ p, rng.1 + rng.2 ≤ v.itemLoc.off ∨ v.itemLoc.off + itemHdrLen + v.kl ≤ rng.1) :
    ∀ r ∈ pathReads p, ¬ r.touches rng := by
  intro r hr
  unfold pathReads at hr
  obtain ⟨v, hv, hrv⟩ := List.mem_flatMap.mp hr
  rcases List.mem_append.mp hrv with h | h
  · by_cases hc : v.cachedNode = true
    · rw [if_pos hc] at h; cases h
    · rw [if_neg hc] at h
      exact node_reads_disjoint v.nodeLoc rng (hn v hv) r h
  · by_cases hc : v.cachedItem = true
    · rw [if_pos hc] at h; cases h
    · rw [if_neg hc] at h
      exact keyonly_reads_disjoint v.itemLoc v.kl v.vl rng (hi v hv) r h

/-- the cold traversal: nothing cached -/
def coldPath (p : List Visit) : List Visit :=
  p.map fun v => { v with cachedNode := false, cachedItem := false }

/-- the cache state only removes reads: the reads of a traversal in any cache state are a sub-log
    of the reads of the same traversal with nothing cached — caching or evicting never makes the
    store read anything the cold traversal would not read -/
theorem pathReads_sublist_cold : ∀ (p : List Visit), (pathReads p).Sublist (pathReads (coldPath p))
  | [] => List.Sublist.refl _
  | v :: p => by
    have ih := pathReads_sublist_cold p
    unfold pathReads coldPath at ih ⊢
    rw [List.map_cons, List.flatMap_cons, List.flatMap_cons]
    refine List.Sublist.append (List.Sublist.append ?_ ?_) ih
    · dsimp only
      cases v.cachedNode
      · exact List.Sublist.refl _
      · exact List.nil_sublist _
    · dsimp only
      cases v.cachedItem
      · exact List.Sublist.refl _
      · exact List.nil_sublist _

/-- a file that is just one root record of an empty store: 46 bytes, three calls -/
example : openReads (encRoot 0 []) = [.stat, .read 22 24, .read 0 22] := by decide

/-- three bytes of data, then a root record: the data is never read -/
example : openReads ([1, 2, 3] ++ encRoot 3 []) = [.stat, .read 25 24, .read 3 22] := by decide

/-- the same file with two bytes of garbage after the root record (a torn later flush): two
    rejected tail reads, then the record -/
example : openReads ([1, 2, 3] ++ encRoot 3 [] ++ [0, 0]) =
    [.stat, .read 27 24, .read 26 24, .read 25 24, .read 3 22] := by decide

/-- a file with no root record at all: one tail read per position above 44, then "no roots" -/
example : (openReads (List.replicate 50 0)).length = 7 := by decide

-- with a collection in the root record (`natDigits` is by well-founded recursion, so these are
-- evaluated checks rather than kernel proofs)
#guard openReads ([1, 2, 3] ++ encRoot 3 [([97], some ⟨5, 52⟩)]) == [.stat, .read 43 24, .read 3 40]
#guard openReads ([1, 2, 3] ++ encRoot 3 [([97], some ⟨5, 52⟩)] ++ [0, 0]) ==
  [.stat, .read 45 24, .read 44 24, .read 43 24, .read 3 40]

/-- an item record at offset 100 with a 3-byte key and a 1000-byte value: the key-only read is 19
    bytes; its value range [119, 1119) is touched only with `withValue` -/
example : itemReads ⟨100, 1019⟩ 3 1000 false = [.read 100 16, .read 116 3] := by decide
example : itemReads ⟨100, 1019⟩ 3 1000 true = [.read 100 16, .read 116 3, .read 119 1000] := by decide
example : ∀ r ∈ itemReads ⟨100, 1019⟩ 3 1000 false, ¬ r.touches (valueRange ⟨100, 1019⟩ 3 1000) := by
  decide
example : ∃ r ∈ itemReads ⟨100, 1019⟩ 3 1000 true, r.touches (valueRange ⟨100, 1019⟩ 3 1000) := by
  decide

end Gkv.Lazy
