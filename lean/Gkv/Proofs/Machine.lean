/-
The history-level refinement (the store-level clause of C01 — "interleaved with Flush and
re-opening" —, C02, C12) for the store-level machine of `Model/Machine.lean`: for EVERY sequence of operations (create/replace/remove collections, set,
delete, flush, re-open) the store model `srun` shows exactly what the specification `specRun`
shows: a sorted map per collection name, and after a re-open exactly the state at the most recent
Flush — to any depth of re-open-and-continue.

The theorems are those of `Proofs/MachineR.lean` read on histories without FlushRevert: `srun ops`
is `rrun (ops.map .base)`; on such a history the specification with a stack of flushed states
shows, as current state and as top of its stack, the current and the durable state of `specRun`;
and the clause of `RHistOK` about forged root records only speaks of reverts.
-/
import Gkv.Model.Machine
import Gkv.Proofs.MachineR

namespace Gkv.Machine
open Gkv

/-- side conditions on a history: names the JSON writer passes through unescaped, items within the
    format's size limits, the file never reaching 4 GiB, and fewer than `2^32` operations (with
    the item limits this keeps every stored aggregate below `2^64`) -/
def HistOK (cmpOf : Bytes → CmpKind) (ops : List SOp) : Prop :=
  (∀ op ∈ ops, OpOK op) ∧
  (∀ k, (srun cmpOf (ops.take k)).size < 2^32) ∧
  ops.length < 2^32

theorem rrun_base (cmpOf : Bytes → CmpKind) (ops : List SOp) :
    MachineR.rrun cmpOf (ops.map .base) = srun cmpOf ops := by
  unfold MachineR.rrun srun
  rw [List.foldl_map]
  rfl

/-- what the specification of `Model/Machine.lean` remembers of the stack of flushed states: the
    most recent one -/
def lastOnly (rs : MachineR.RSpec) : SpecState := ⟨rs.cur, rs.flushed.headD []⟩

theorem specStep_base (cmpOf : Bytes → CmpKind) (rs : MachineR.RSpec) (op : SOp) :
    specStep cmpOf (lastOnly rs) op = lastOnly (MachineR.rspecStep cmpOf rs (.base op)) := by
  cases op with
  | set nm i => cases hg : specGet nm rs.cur <;> simp [lastOnly, MachineR.rspecStep, specStep, hg]
  | del nm k => cases hg : specGet nm rs.cur <;> simp [lastOnly, MachineR.rspecStep, specStep, hg]
  | _ => rfl

theorem specRun_base (cmpOf : Bytes → CmpKind) (ops : List SOp) :
    specRun cmpOf ops = lastOnly (MachineR.rspecRun cmpOf (ops.map .base)) := by
  unfold specRun MachineR.rspecRun
  rw [List.foldl_map]
  exact List.foldl_hom lastOnly (init := MachineR.rspecInit) (specStep_base cmpOf)

theorem HistOK.base {cmpOf : Bytes → CmpKind} {ops : List SOp} (h : HistOK cmpOf ops) :
    MachineR.RHistOK cmpOf (ops.map .base) := by
  refine ⟨?_, ?_, ?_, ?_⟩
  · intro op hop
    obtain ⟨o, ho, rfl⟩ := List.mem_map.mp hop
    exact h.1 o ho
  · intro k
    rw [← List.map_take, rrun_base]
    exact h.2.1 k
  · rw [List.length_map]
    exact h.2.2
  · -- no operation of the history is a revert
    intro k hk
    rw [List.getElem?_map] at hk
    cases ho : ops[k]? <;> rw [ho] at hk <;> cases hk

theorem HistOK.take {cmpOf : Bytes → CmpKind} {ops : List SOp} (h : HistOK cmpOf ops) (k : Nat) :
    HistOK cmpOf (ops.take k) := by
  refine ⟨fun op hop => h.1 op (List.mem_of_mem_take hop), fun j => ?_,
    Nat.lt_of_le_of_lt (List.length_take_le' k ops) h.2.2⟩
  rw [List.take_take]
  exact h.2.1 _

/-- C01, store level: after every admissible history the store shows exactly what the specification shows -/
theorem refinement (cmpOf : Bytes → CmpKind) (ops : List SOp) (h : HistOK cmpOf ops) :
    absS (srun cmpOf ops) = (specRun cmpOf ops).cur := by
  rw [← rrun_base, specRun_base]
  exact MachineR.rrefinement cmpOf _ h.base

theorem invariant (cmpOf : Bytes → CmpKind) (ops : List SOp) (h : HistOK cmpOf ops) :
    StoreInv cmpOf (srun cmpOf ops) :=
  rrun_base cmpOf ops ▸ MachineR.rinvariant cmpOf _ h.base

theorem invariant_prefix (cmpOf : Bytes → CmpKind) (ops : List SOp) (h : HistOK cmpOf ops)
    (k : Nat) : StoreInv cmpOf (srun cmpOf (ops.take k)) :=
  invariant cmpOf _ (h.take k)

theorem refinement_prefix (cmpOf : Bytes → CmpKind) (ops : List SOp) (h : HistOK cmpOf ops)
    (k : Nat) : absS (srun cmpOf (ops.take k)) = (specRun cmpOf (ops.take k)).cur :=
  refinement cmpOf _ (h.take k)

/-- what re-opening the file would show is, at every moment, the state at the last Flush -/
theorem durable_is_last_flush (cmpOf : Bytes → CmpKind) (ops : List SOp) (h : HistOK cmpOf ops) :
    ∃ dc, openStore 0 (srun cmpOf ops).file cmpOf
        = .ok ⟨some 0, (srun cmpOf ops).file.length, dc, false⟩ ∧
      absColls dc = (specRun cmpOf ops).durable := by
  rw [← rrun_base, specRun_base]
  exact MachineR.r_reopen_shows_top cmpOf _ h.base

/-- C02: what re-opening shows is exactly the state at the most recent Flush -/
theorem reopen_shows_last_flush (cmpOf : Bytes → CmpKind) (ops : List SOp)
    (h : HistOK cmpOf (ops ++ [.reopen])) :
    absS (srun cmpOf (ops ++ [.reopen])) = (specRun cmpOf ops).durable := by
  rw [refinement cmpOf _ h]
  unfold specRun
  rw [List.foldl_append]
  rfl

/-- C12: names are always the sorted set of current names -/
theorem names_sorted (cmpOf : Bytes → CmpKind) (ops : List SOp) (h : HistOK cmpOf ops) :
    ((srun cmpOf ops).colls.map (·.name)).Pairwise (fun a b => compare a b = .lt) :=
  List.pairwise_map.mpr (invariant cmpOf ops h).sorted

#print axioms refinement
#print axioms invariant
#print axioms invariant_prefix
#print axioms refinement_prefix
#print axioms durable_is_last_flush
#print axioms reopen_shows_last_flush
#print axioms names_sorted

end Gkv.Machine
