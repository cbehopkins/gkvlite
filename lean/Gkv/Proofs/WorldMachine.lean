/-
The history interpreter IS the store machine on the operation lines that are machine operations.
`Gkv.Model.World.stepTokens` is the function the differential tests execute, `Gkv.Machine.sstep` the
state machine about which the history refinement theorem `Gkv.Machine.refinement` is proved:
`machineOf` reads the machine state of a store out of a world, `renderOp` spells a machine
operation as an operation line, and one line of the interpreter is one step of the machine.

Side conditions:
* `w.fault = none` (only `flush` needs it: an armed fault would make the interpreter's flush a faulty
  one, `sstep .flush` is the fault-free flush);
* `.set n i` needs `validItem i.key (some i.val) i.prio` (the interpreter answers `err-arg` and
  changes nothing otherwise, the machine's `.set` is "SetItem with a valid item");
* `.reopen`: `open` calls `openStore f …`, the machine `openStore 0 …`; the file id only lands in
  the `file` field of the result (`openStore_fid`), and when `openStore` does not return `.ok` both
  sides keep the store as it was (the interpreter only re-registers the file) — no side condition
  (`open_machineOf` says so for any world; the first `open` of a run is the same lemma on an
  empty file);
* no hypothesis on the comparators of the collections is needed (both sides use the comparator
  stored in the collection for `set`/`del`, and `cmpOfName` for `setcoll`/`open`):
  `world_simulates_machine'` is the natural statement of the step, and what a run needs (nothing
  is known about the comparators of an intermediate state).  `world_simulates_machine` and
  `world_run_simulates` state the step and the run with such a hypothesis, `_hcmp`, which their
  proofs do not use.
-/
import Gkv.Proofs.WorldFrame
import Gkv.Model.Machine
import Gkv.Proofs.Machine
import Std.Data.String.ToInt

namespace Gkv

theorem toNat?_toString (n : Nat) : (toString n).toNat? = some n := Nat.toNat?_repr n
theorem toInt?_toString (n : Nat) : (toString n).toInt? = some (n : Int) := Nat.toInt?_repr n

theorem hexVal_hexChar (n : Nat) (h : n < 16) : hexVal (hexChar n) = some n := by
  have : ∀ m : Fin 16, hexVal (hexChar m.val) = some m.val := by decide
  exact this ⟨n, h⟩

def hexList (b : Bytes) : List Char :=
  b.foldr (fun x acc => hexChar (x.toNat / 16) :: hexChar (x.toNat % 16) :: acc) []

theorem parseHexAux_hexList (b : Bytes) : ∀ acc, parseHexAux (hexList b) acc = some (acc.reverse ++ b) := by
  induction b with
  | nil => intro acc; simp [hexList, parseHexAux]
  | cons x rest ih =>
    intro acc
    have hx : x.toNat < 256 := x.toNat_lt
    have e : hexList (x :: rest) = hexChar (x.toNat / 16) :: hexChar (x.toNat % 16) :: hexList rest := rfl
    rw [e, parseHexAux, hexVal_hexChar _ (by omega), hexVal_hexChar _ (by omega)]
    simp only [Option.bind_eq_bind, Option.bind_some]
    rw [ih]
    have : UInt8.ofNat (x.toNat / 16 * 16 + x.toNat % 16) = x := by
      rw [Nat.div_add_mod']; simp
    rw [this]; simp

theorem parseBytes_showBytes (b : Bytes) : parseBytes (showBytes b) = some (some b) := by
  have e : (showBytes b).toList = 'h' :: hexList b := by
    simp [showBytes, hexOf, hexList]
  unfold parseBytes
  rw [e]
  simp [parseHexAux_hexList]

/-- the machine state of store `s` living on file `f` in a world -/
def machineOf (w : World) (s f : Nat) : Option Machine.SState :=
  match assocGet s w.stores with
  | some st => if st.file = some f ∧ st.readOnly = false then some ⟨st.colls, (w.file f).bytes, st.size⟩ else none
  | none => none

/-- the operation line for a machine operation on store `s` (file `f`) -/
def renderOp (s f : Nat) : Machine.SOp → List String
  | .setColl n => ["setcoll", toString s, showBytes n]
  | .rmColl n => ["rmcoll", toString s, showBytes n]
  | .set n i => ["set", toString s, showBytes n, showBytes i.key, showBytes i.val, toString i.prio]
  | .del n k => ["del", toString s, showBytes n, showBytes k]
  | .flush => ["flush", toString s]
  | .reopen => ["open", toString s, toString f]
  -- `.reopen`: NewStore on the same file under the same id (the harness closes/drops the old store
  -- first; in the model `open` simply replaces the entry)

theorem machineOf_some {w : World} {s f : Nat} {m : Machine.SState} (hm : machineOf w s f = some m) :
    ∃ st, assocGet s w.stores = some st ∧ st.file = some f ∧ st.readOnly = false ∧
      m = ⟨st.colls, (w.file f).bytes, st.size⟩ := by
  unfold machineOf at hm
  split at hm
  · rename_i st hst
    split at hm
    · rename_i h
      exact ⟨st, hst, h.1, h.2, (Option.some.inj hm).symm⟩
    · cases hm
  · cases hm

theorem machineOf_intro {w : World} {s f : Nat} {st : Store} (hst : assocGet s w.stores = some st)
    (hf : st.file = some f) (hro : st.readOnly = false) :
    machineOf w s f = some ⟨st.colls, (w.file f).bytes, st.size⟩ := by
  unfold machineOf
  rw [hst]
  simp [hf, hro]

theorem openStore_fid (a b : Nat) (bytes : Bytes) (cmpOf : Bytes → CmpKind) :
    (∃ sz cs, openStore a bytes cmpOf = .ok ⟨some a, sz, cs, false⟩ ∧ openStore b bytes cmpOf = .ok ⟨some b, sz, cs, false⟩)
    ∨ (openStore a bytes cmpOf = .noRoots ∧ openStore b bytes cmpOf = .noRoots)
    ∨ (openStore a bytes cmpOf = .corrupt ∧ openStore b bytes cmpOf = .corrupt) := by
  unfold openStore
  split
  · exact Or.inl ⟨_, _, rfl, rfl⟩
  · split
    · split
      · exact Or.inl ⟨_, _, rfl, rfl⟩
      · exact Or.inr (Or.inr ⟨rfl, rfl⟩)
    · exact Or.inl ⟨_, _, rfl, rfl⟩
    · exact Or.inr (Or.inl ⟨rfl, rfl⟩)

/-- what `open s f` makes of the machine state of store `s` on file `f`: a readable file replaces
    it, otherwise the interpreter only re-registers the file -/
theorem open_machineOf (w : World) (s f : Nat) :
    machineOf (stepTokens w ["open", toString s, toString f]).1 s f =
      match openStore 0 (w.file f).bytes cmpOfName with
      | .ok st => some ⟨st.colls, (w.file f).bytes, st.size⟩
      | _ => machineOf w s f := by
  step_reduce
  rw [toNat?_toString, toNat?_toString]
  dsimp only
  rcases openStore_fid f 0 (w.file f).bytes cmpOfName with ⟨sz, cs, h1, h2⟩ | ⟨h1, h2⟩ | ⟨h1, h2⟩
  all_goals rw [h1, h2]
  · -- `.ok`: the new store is writable and on `f`, and file `f` holds what `w.file f` returned
    dsimp only
    rw [machineOf_intro (st := ⟨some f, sz, cs, false⟩) (assocGet_assocSet_eq _ _ _) rfl rfl]
    simp only [World.file, assocGet_assocSet_eq, Option.getD_some]
  -- `.noRoots`, `.corrupt`: the stores stay, file `f` is re-registered with the same contents
  · simp only [machineOf, World.file, assocGet_assocSet_eq, Option.getD_some]
  · simp only [machineOf, World.file, assocGet_assocSet_eq, Option.getD_some]

/-- the side condition on an operation: `set` carries an item `SetItem` accepts -/
def ValidOp : Machine.SOp → Prop
  | .set _ i => validItem i.key (some i.val) i.prio = true
  | _ => True

/-- store `s` replaced by a writable store on `f`, the files untouched -/
theorem machineOf_store (w : World) (s f sz : Nat) (cs : List Coll) :
    machineOf { w with stores := assocSet s ⟨some f, sz, cs, false⟩ w.stores } s f =
      some ⟨cs, (w.file f).bytes, sz⟩ :=
  machineOf_intro (w := { w with stores := _ }) (assocGet_assocSet_eq _ _ _) rfl rfl

theorem world_simulates_machine' (w : World) (s f : Nat) (m : Machine.SState) (op : Machine.SOp)
    (hm : machineOf w s f = some m) (hfault : w.fault = none) (hvalid : ValidOp op) :
    machineOf (stepTokens w (renderOp s f op)).1 s f = some (Machine.sstep cmpOfName m op) := by
  obtain ⟨st, hst, hf, hro, rfl⟩ := machineOf_some hm
  cases op
  case reopen =>
    -- `open_machineOf` and `sstep` branch on the same `openStore 0 …`
    rw [renderOp, open_machineOf, Machine.sstep]
    cases openStore 0 (w.file f).bytes cmpOfName with
    | ok _ => rfl
    | _ => exact hm
  -- the other five: select the arm of the line (in a pass of its own: `whnf` keeps the comparisons
  -- of head tokens it has made from goal to goal only while nothing else runs in between); then the
  -- tokens parse back, store `s` is `st`, writable and on `f`, and no fault is armed
  all_goals step_reduce
  all_goals
    simp only [toNat?_toString, parseBytes_showBytes, toInt?_toString, withColl, putColl, hst, hf, hro,
      hfault, Bool.false_eq_true, ↓reduceIte, Machine.sstep]
  case setColl n =>
    -- an existing collection keeps its root, and its name is `n` (`collsGet_some`)
    refine (machineOf_store w s f _ _).trans ?_
    cases h : collsGet n st.colls with
    | none => rfl
    | some c => obtain ⟨-, rfl⟩ := collsGet_some h; rfl
  case rmColl n => exact machineOf_store w s f _ _
  case set n i =>
    -- no collection `n`: nothing changes on either side; otherwise the item is valid (`hvalid`), so
    -- the arm reaches `Tree.setItem`
    cases collsGet n st.colls with
    | none => exact hm
    | some c =>
      dsimp only
      rw [if_neg (by simpa [ValidOp] using hvalid)]
      exact machineOf_store w s f _ _
  case del n k =>
    cases collsGet n st.colls with
    | none => exact hm
    | some c => exact machineOf_store w s f _ _
  case flush =>
    -- the plan is `none`, so `flushStore` starts from the machine's file state; file `f` then holds
    -- the bytes it returns
    rw [machineOf_intro (st := ⟨some f, _, _, false⟩) (assocGet_assocSet_eq _ _ _) rfl rfl]
    simp only [World.file, assocGet_assocSet_eq, Option.getD_some]
    rfl

/-- `world_simulates_machine'` under the additional, unused hypothesis `_hcmp` (see the header) -/
theorem world_simulates_machine (w : World) (s f : Nat) (m : Machine.SState) (op : Machine.SOp)
    (hm : machineOf w s f = some m) (hfault : w.fault = none)
    (hvalid : match op with | .set _ i => validItem i.key (some i.val) i.prio = true | _ => True)
    (_hcmp : ∀ c ∈ m.colls, c.cmp = cmpOfName c.name) :
    machineOf (stepTokens w (renderOp s f op)).1 s f = some (Machine.sstep cmpOfName m op) :=
  world_simulates_machine' w s f m op hm hfault hvalid

theorem renderOp_keeps_fault (w : World) (s f : Nat) (op : Machine.SOp) :
    (stepTokens w (renderOp s f op)).1.fault = w.fault :=
  (stepTokens_footprint w _).fault (by cases op <;> simp [renderOp])

/-- the step along a run; `_hcmp` is not used (see the header) -/
theorem world_run_simulates (w : World) (s f : Nat) (m : Machine.SState) (ops : List Machine.SOp)
    (hm : machineOf w s f = some m) (hfault : w.fault = none)
    (hvalid : ∀ op ∈ ops,
      match op with | .set _ i => validItem i.key (some i.val) i.prio = true | _ => True)
    (_hcmp : ∀ c ∈ m.colls, c.cmp = cmpOfName c.name) :
    machineOf (ops.foldl (fun w op => (stepTokens w (renderOp s f op)).1) w) s f
      = some (ops.foldl (Machine.sstep cmpOfName) m) :=
  (List.foldl_rel (r := fun w m => machineOf w s f = some m ∧ w.fault = none) ⟨hm, hfault⟩
    fun op hop w m h => ⟨world_simulates_machine' w s f m op h.1 h.2 (hvalid op hop),
      (renderOp_keeps_fault w s f op).trans h.2⟩).1

theorem open_fresh (w0 : World) (s f : Nat) (hempty : (w0.file f).bytes = []) :
    machineOf (stepTokens w0 ["open", toString s, toString f]).1 s f = some Machine.sinit := by
  rw [open_machineOf, hempty]
  rfl

/-- from the world right after `open s f` on an empty file, the interpreter's store `s` IS
    `Machine.srun` of the history — every theorem of `Gkv.Proofs.Machine` about `srun`
    (`refinement`, `invariant`, `durable_is_last_flush`, `reopen_shows_last_flush`, `names_sorted`)
    is thereby a theorem about the interpreter -/
theorem world_run_from_open (w0 : World) (s f : Nat) (ops : List Machine.SOp)
    (hempty : (w0.file f).bytes = []) (hfault : w0.fault = none)
    (hvalid : ∀ op ∈ ops, ValidOp op) :
    machineOf (ops.foldl (fun w op => (stepTokens w (renderOp s f op)).1)
        (stepTokens w0 ["open", toString s, toString f]).1) s f
      = some (Machine.srun cmpOfName ops) :=
  world_run_simulates _ s f Machine.sinit ops (open_fresh w0 s f hempty)
    ((renderOp_keeps_fault w0 s f .reopen).trans hfault) hvalid fun _ h => nomatch h

/-- C01 at the store level, about the very function the differential tests run: start from any
    world without an armed fault in which file `f` is empty or absent, `open s f`, then run the lines of an
    admissible history `ops` (`Machine.HistOK`: plain names, items within the format limits, file
    below 4 GiB, fewer than 2^32 operations; `ValidOp`: the items are ones `SetItem` accepts).
    Store `s` is then a writable store on `f` whose contents — names, and per name the items in key
    order — are exactly those of the specification machine. -/
theorem world_refines_spec (w0 : World) (s f : Nat) (ops : List Machine.SOp)
    (hempty : (w0.file f).bytes = []) (hfault : w0.fault = none)
    (hok : Machine.HistOK cmpOfName ops) (hvalid : ∀ op ∈ ops, ValidOp op) :
    (machineOf (ops.foldl (fun w op => (stepTokens w (renderOp s f op)).1)
        (stepTokens w0 ["open", toString s, toString f]).1) s f).map Machine.absS
      = some (Machine.specRun cmpOfName ops).cur := by
  rw [world_run_from_open w0 s f ops hempty hfault hvalid]
  exact congrArg some (Machine.refinement cmpOfName ops hok)

/-- …and that store satisfies the store invariant (names sorted, every comparator the one its name
    determines — the `hcmp` condition, so it is preserved along admissible histories —, search
    trees, aggregates, coherence with the file, `size` = file length, the file re-opens) -/
theorem world_store_invariant (w0 : World) (s f : Nat) (ops : List Machine.SOp)
    (hempty : (w0.file f).bytes = []) (hfault : w0.fault = none)
    (hok : Machine.HistOK cmpOfName ops) (hvalid : ∀ op ∈ ops, ValidOp op) :
    ∃ m, machineOf (ops.foldl (fun w op => (stepTokens w (renderOp s f op)).1)
        (stepTokens w0 ["open", toString s, toString f]).1) s f = some m ∧
      Machine.StoreInv cmpOfName m :=
  ⟨_, world_run_from_open w0 s f ops hempty hfault hvalid, Machine.invariant cmpOfName ops hok⟩

end Gkv
