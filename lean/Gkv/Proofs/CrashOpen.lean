/-
Properties C02 and C03 — "a successful Flush makes the entire store state durable", and "a crash
image opens exactly at the last completed flush".

A flush without a fault ends the file with its root record (`flush_root_at`), and the flushed
collections are coherent with the file (`flushStore_coherent`), so `loadColls` on the entries of that
record reads them back (`loadColls_of_coherent`).  Both facts depend only on the bytes below the
flushed size, so they hold of ANY surviving image `g` that keeps those bytes and has no complete
root record above them (torn tail of a later flush, junk appended by the file system, …):
`open_crash_image_full`.  The flushed file itself is one such image (`flush_then_open`).  With
`Gkv.Proofs.CodecFull` no hypothesis on the bytes of the collection names is needed.
-/
import Gkv.Proofs.FlushCoherent
import Gkv.Proofs.FlushTiles
import Gkv.Proofs.Scan
import Gkv.Proofs.CodecFull
import Gkv.Proofs.Colls

namespace Gkv

theorem flush_root_at (cs : List Coll) (s : FileSt)
    (hf : s.failed = false) (hp : s.failAt = none) (hsz : s.size = s.bytes.length)
    (hc : ∀ c ∈ cs, c.root.Coherent s.bytes s.size) (hok : ∀ c ∈ cs, c.root.SizesOK)
    (hlim : (flushStore cs s).2.size < 2^32) :
    (flushStore cs s).2.size = (flushStore cs s).2.bytes.length ∧
    rootAt (flushStore cs s).2.bytes (flushStore cs s).2.size
      = some (rootEntries (flushStore cs s).1) ∧
    s.size < (flushStore cs s).2.size := by
  have S1 := flushColls_steps cs s
  have c1 := S1.frame.noplan ⟨hf, hp⟩
  have t1 := (S1.tframe ⟨hf, hp⟩).tight hsz
  -- the flush appends its root record to the file that `flushColls` left, which ends at `size`
  rw [flushStore_eq, recStep_of_clean _ c1] at hlim ⊢
  dsimp only at hlim ⊢
  have hB := Nat.lt_of_le_of_lt (Nat.le_add_right _ _) hlim
  rw [t1] at hlim ⊢
  rw [writeAt_end]
  refine ⟨List.length_append.symm, rootAt_encRoot _ _ (fun e he q hq => ?_) hlim, ?_⟩
  · obtain ⟨c, hcm, rfl⟩ := List.mem_map.mp he
    exact ((flushColls_coherent_any cs s (Nat.le_of_eq hsz) hc hok hB c hcm).1.slotLoc_encodable
      hB hq).2.2
  · have := S1.frame.size_mono
    rw [encRoot_length, rootsLen]
    omega

theorem loadColls_of_coherent (f : Bytes) (bound : Nat) (cmpOf : Bytes → CmpKind) (cs : List Coll)
    (hc : ∀ c ∈ cs, c.root.Coherent f bound ∧ c.root.Persisted) (hb : bound ≤ f.length)
    (hcmp : ∀ c ∈ cs, cmpOf c.name = c.cmp)
    (hnames : cs.Pairwise (fun a b => compare a.name b.name = .lt)) :
    loadColls f cmpOf (rootEntries cs) = some cs := by
  induction cs with
  | nil => rfl
  | cons c rest ih =>
    obtain ⟨h1, h2⟩ := List.pairwise_cons.mp hnames
    obtain ⟨cc, cp⟩ := hc c (by simp)
    -- the fuel `f.length + 1` of `loadColls` has to exceed the DEPTH of the tree, which is at most
    -- `bound`; no hypothesis on its size is needed (the size is not bounded by the file length: two
    -- slots may point at one record, and a DAG on file unfolds to an exponentially larger tree)
    have hh := coherent_height_le f bound c.root cc cp
    have e1 := loadTree_of_coherent_height f bound c.root cc cp (f.length + 1) (by omega)
    have e2 := ih (fun d hd => hc d (by simp [hd])) (fun d hd => hcmp d (by simp [hd])) h2
    unfold rootEntries at e2 ⊢
    simp only [List.map_cons, loadColls, e1, e2, bind, Option.bind, hcmp c (by simp)]
    rw [show (⟨c.name, c.cmp, c.root⟩ : Coll) = c from rfl, collsSet_lt c rest h1]

/-- C03: any surviving image `g` that keeps the bytes of the completed flush and has no complete
    root record above it re-opens to EXACTLY the flushed collections (any collection names).
    `hjunk` is needed: bytes above the flushed size that happen to form a complete, self-consistent
    root record ARE found by the backward scan (that is how a later flush is seen). -/
theorem open_crash_image_full (fid : Nat) (cmpOf : Bytes → CmpKind) (cs : List Coll) (s : FileSt)
    (hf : s.failed = false) (hp : s.failAt = none) (hsz : s.size = s.bytes.length)
    (hc : ∀ c ∈ cs, c.root.Coherent s.bytes s.size) (hok : ∀ c ∈ cs, c.root.SizesOK)
    (hnames : cs.Pairwise (fun a b => compare a.name b.name = .lt))
    (hcmp : ∀ c ∈ cs, cmpOf c.name = c.cmp)
    (hlim : (flushStore cs s).2.size < 2^32)
    (g : Bytes) (hge : (flushStore cs s).2.size ≤ g.length)
    (hpre : g.take (flushStore cs s).2.size = (flushStore cs s).2.bytes)
    (hjunk : ∀ e', (flushStore cs s).2.size < e' → e' ≤ g.length → rootAt g e' = none) :
    openStore fid g cmpOf = .ok ⟨some fid, (flushStore cs s).2.size, (flushStore cs s).1, false⟩ := by
  obtain ⟨htight, hroot, -⟩ := flush_root_at cs s hf hp hsz hc hok hlim
  have hcoh := flushStore_coherent cs s hf hp (Nat.le_of_eq hsz) hc hok hlim
  have hshape : Machine.SameShape (flushStore cs s).1 cs := flushStore_eraseLocs cs s
  -- `g` and the flushed file agree below the flushed size, which is all of the flushed file
  have hpre' := hpre.trans (List.take_of_length_le (Nat.le_of_eq htight.symm)).symm
  -- so the scan of `g` stops at the root record of the flush, and the flushed collections, being
  -- coherent with `g` below that end, load from `g`
  rw [openStore_crash_atomic _ g _ _ hroot hge hpre' hjunk,
    loadColls_of_coherent g _ cmpOf _ (fun c hcm => ⟨coherent_of_prefix _ g _ _ (hcoh c hcm).1
      (Nat.le_of_eq htight) hge hpre', (hcoh c hcm).2⟩) hge ?_ (hshape.sorted hnames)]
  -- names and comparators are those of `cs`
  intro c hcm
  obtain ⟨d, hd, h1, h2, -⟩ := hshape.mem c hcm
  rw [← h1, ← h2]
  exact hcmp d hd

/-- C03 with a `PlainName` hypothesis, which is not used -/
theorem open_crash_image (fid : Nat) (cmpOf : Bytes → CmpKind) (cs : List Coll) (s : FileSt)
    (hf : s.failed = false) (hp : s.failAt = none) (hsz : s.size = s.bytes.length)
    (hc : ∀ c ∈ cs, c.root.Coherent s.bytes s.size) (hok : ∀ c ∈ cs, c.root.SizesOK)
    (hnames : cs.Pairwise (fun a b => compare a.name b.name = .lt))
    (_hplain : ∀ c ∈ cs, PlainName c.name) (hcmp : ∀ c ∈ cs, cmpOf c.name = c.cmp)
    (hlim : (flushStore cs s).2.size < 2^32)
    (g : Bytes) (hge : (flushStore cs s).2.size ≤ g.length)
    (hpre : g.take (flushStore cs s).2.size = (flushStore cs s).2.bytes)
    (hjunk : ∀ e', (flushStore cs s).2.size < e' → e' ≤ g.length → rootAt g e' = none) :
    openStore fid g cmpOf = .ok ⟨some fid, (flushStore cs s).2.size, (flushStore cs s).1, false⟩ :=
  open_crash_image_full fid cmpOf cs s hf hp hsz hc hok hnames hcmp hlim g hge hpre hjunk

/-- C02 without the `PlainName` hypothesis: `g` is the flushed file itself -/
theorem flush_then_open_full (fid : Nat) (cmpOf : Bytes → CmpKind) (cs : List Coll) (s : FileSt)
    (hf : s.failed = false) (hp : s.failAt = none) (hsz : s.size = s.bytes.length)
    (hc : ∀ c ∈ cs, c.root.Coherent s.bytes s.size) (hok : ∀ c ∈ cs, c.root.SizesOK)
    (hnames : cs.Pairwise (fun a b => compare a.name b.name = .lt))
    (hcmp : ∀ c ∈ cs, cmpOf c.name = c.cmp)
    (hlim : (flushStore cs s).2.size < 2^32) :
    openStore fid (flushStore cs s).2.bytes cmpOf
      = .ok ⟨some fid, (flushStore cs s).2.size, (flushStore cs s).1, false⟩ := by
  have htight := (flush_root_at cs s hf hp hsz hc hok hlim).1
  exact open_crash_image_full fid cmpOf cs s hf hp hsz hc hok hnames hcmp hlim
    (flushStore cs s).2.bytes (Nat.le_of_eq htight) (by rw [htight, List.take_length])
    (fun e' h1 h2 => by omega)

/-- C02: flush then re-open gives back exactly the flushed collections -/
theorem flush_then_open (fid : Nat) (cmpOf : Bytes → CmpKind) (cs : List Coll) (s : FileSt)
    (hf : s.failed = false) (hp : s.failAt = none) (hsz : s.size = s.bytes.length)
    (hc : ∀ c ∈ cs, c.root.Coherent s.bytes s.size) (hok : ∀ c ∈ cs, c.root.SizesOK)
    (hnames : cs.Pairwise (fun a b => compare a.name b.name = .lt))
    (hplain : ∀ c ∈ cs, PlainName c.name) (hcmp : ∀ c ∈ cs, cmpOf c.name = c.cmp)
    (hlim : (flushStore cs s).2.size < 2^32) :
    openStore fid (flushStore cs s).2.bytes cmpOf
      = .ok ⟨some fid, (flushStore cs s).2.size, (flushStore cs s).1, false⟩ :=
  flush_then_open_full fid cmpOf cs s hf hp hsz hc hok hnames hcmp hlim

/-- C02, observable form: after a successful flush, re-opening the file succeeds at the flushed
    size with collections that are, up to file locations, the collections that were flushed —
    same names, comparators, trees (`eraseLocs`), hence same item lists and aggregates. -/
theorem flush_then_open_contents (fid : Nat) (cmpOf : Bytes → CmpKind) (cs : List Coll) (s : FileSt)
    (hf : s.failed = false) (hp : s.failAt = none) (hsz : s.size = s.bytes.length)
    (hc : ∀ c ∈ cs, c.root.Coherent s.bytes s.size) (hok : ∀ c ∈ cs, c.root.SizesOK)
    (hnames : cs.Pairwise (fun a b => compare a.name b.name = .lt))
    (hplain : ∀ c ∈ cs, PlainName c.name) (hcmp : ∀ c ∈ cs, cmpOf c.name = c.cmp)
    (hlim : (flushStore cs s).2.size < 2^32) :
    ∃ cs', openStore fid (flushStore cs s).2.bytes cmpOf
        = .ok ⟨some fid, (flushStore cs s).2.size, cs', false⟩ ∧
      cs'.map (fun c => (c.name, c.cmp, c.root.eraseLocs))
        = cs.map (fun c => (c.name, c.cmp, c.root.eraseLocs)) ∧
      cs'.map (fun c => (c.name, c.cmp, c.root.toList, c.root.nn, c.root.nb))
        = cs.map (fun c => (c.name, c.cmp, c.root.toList, c.root.nn, c.root.nb)) ∧
      ∀ c ∈ cs', c.root.Coherent (flushStore cs s).2.bytes (flushStore cs s).2.size ∧
        c.root.Persisted :=
  ⟨(flushStore cs s).1,
    flush_then_open fid cmpOf cs s hf hp hsz hc hok hnames hplain hcmp hlim,
    flushStore_eraseLocs cs s, flushStore_contents cs s,
    flushStore_coherent cs s hf hp (Nat.le_of_eq hsz) hc hok hlim⟩

/-- the surviving image after the completed flush: the flushed bytes followed by ANY tail `junk`
    that does not complete a root record -/
theorem open_crash_image_append (fid : Nat) (cmpOf : Bytes → CmpKind) (cs : List Coll) (s : FileSt)
    (hf : s.failed = false) (hp : s.failAt = none) (hsz : s.size = s.bytes.length)
    (hc : ∀ c ∈ cs, c.root.Coherent s.bytes s.size) (hok : ∀ c ∈ cs, c.root.SizesOK)
    (hnames : cs.Pairwise (fun a b => compare a.name b.name = .lt))
    (hcmp : ∀ c ∈ cs, cmpOf c.name = c.cmp)
    (hlim : (flushStore cs s).2.size < 2^32) (junk : Bytes)
    (hjunk : ∀ e', (flushStore cs s).2.size < e' →
      e' ≤ ((flushStore cs s).2.bytes ++ junk).length →
      rootAt ((flushStore cs s).2.bytes ++ junk) e' = none) :
    openStore fid ((flushStore cs s).2.bytes ++ junk) cmpOf
      = .ok ⟨some fid, (flushStore cs s).2.size, (flushStore cs s).1, false⟩ := by
  have htight := (flush_root_at cs s hf hp hsz hc hok hlim).1
  exact open_crash_image_full fid cmpOf cs s hf hp hsz hc hok hnames hcmp hlim _
    (by rw [List.length_append, htight]; omega)
    (by rw [htight, List.take_left']; rfl) hjunk

#print axioms flush_root_at
#print axioms open_crash_image_full
#print axioms open_crash_image
#print axioms flush_then_open_full
#print axioms open_crash_image_append
#print axioms flush_then_open
#print axioms flush_then_open_contents

end Gkv
