/-
What the history interpreter (`Gkv.Model.World`) answers on ONE given operation line: a read-only
store rejects Set/Delete/Flush, a memory-only store rejects Flush/FlushRevert, Close and FlushRevert
through a snapshot leave file bytes alone, `snap` stores a value copy.  `stepTokens` is one `match`
with ~50 string-literal arms; `step_reduce` selects the arm of the operation at hand.
-/
import Gkv.Model.World

namespace Gkv

/-- `whnf` evaluates the comparisons of the head token with the literals of the arms before the
    selected one and stops at that arm's own `match` on the parsed tokens -/
macro "step_reduce" : tactic => `(tactic| conv in stepTokens _ _ => whnf)

theorem assocGet_assocSet_eq {α : Type} (k : Nat) (v : α) (l : List (Nat × α)) :
    assocGet k (assocSet k v l) = some v := by
  induction l with
  | nil => simp [assocSet, assocGet]
  | cons p rest ih =>
    obtain ⟨k', v'⟩ := p
    by_cases h : k = k'
    · simp [assocSet, assocGet, h]
    · simp [assocSet, assocGet, h, ih]

theorem assocGet_assocSet_ne {α : Type} {k k' : Nat} (v : α) (l : List (Nat × α)) (h : ¬ k' = k) :
    assocGet k (assocSet k' v l) = assocGet k l := by
  have h' : ¬ k = k' := fun e => h e.symm
  induction l with
  | nil => simp [assocSet, assocGet, h']
  | cons p rest ih =>
    obtain ⟨k'', v'⟩ := p
    by_cases h2 : k' = k''
    · subst h2; simp [assocSet, assocGet, h']
    · by_cases h3 : k = k''
      · simp [assocSet, assocGet, h2, h3]
      · simp [assocSet, assocGet, h2, h3, ih]

theorem assocDel_cons {α : Type} (k k' : Nat) (v : α) (l : List (Nat × α)) :
    assocDel k ((k', v) :: l) = if k' = k then assocDel k l else (k', v) :: assocDel k l := by
  by_cases h : k' = k <;> simp [assocDel, h]

theorem assocGet_assocDel_ne {α : Type} {k k' : Nat} (l : List (Nat × α)) (h : ¬ k' = k) :
    assocGet k (assocDel k' l) = assocGet k l := by
  induction l with
  | nil => rfl
  | cons p rest ih =>
    obtain ⟨k'', v'⟩ := p
    rw [assocDel_cons]
    by_cases h2 : k'' = k'
    · have h3 : ¬ k = k'' := fun e => h (by rw [e, h2])
      simp [assocGet, h2, ih]
      intro e; exact absurd e.symm h
    · by_cases h3 : k = k''
      · simp [assocGet, h2, h3]
      · simp [assocGet, h2, h3, ih]

theorem assocGet_assocDel_eq {α : Type} (k : Nat) (l : List (Nat × α)) :
    assocGet k (assocDel k l) = none := by
  induction l with
  | nil => rfl
  | cons p rest ih =>
    obtain ⟨k'', v'⟩ := p
    rw [assocDel_cons]
    by_cases h2 : k'' = k
    · simp [h2, ih]
    · have : ¬ k = k'' := fun e => h2 e.symm
      simp [assocGet, h2, this, ih]

theorem withColl_readonly (w : World) (sid : Nat) (n : Bytes) (st : Store)
    (k : Store → Coll → World × String)
    (hst : assocGet sid w.stores = some st)
    (hk : ∀ c, k st c = (w, "err-ro")) :
    ∃ o, withColl w sid n k = (w, o) ∧ (o = "err-ro" ∨ o = "nocoll") := by
  unfold withColl
  rw [hst]
  dsimp only
  split
  · exact ⟨_, rfl, .inr rfl⟩
  · exact ⟨_, hk _, .inl rfl⟩

theorem readonly_rejects_set (w : World) (s n k v p : String) (sid : Nat) (st : Store)
    (hs : s.toNat? = some sid) (hst : assocGet sid w.stores = some st) (hro : st.readOnly = true) :
    ∃ o, stepTokens w ["set", s, n, k, v, p] = (w, o) ∧ (o = "err-ro" ∨ o = "nocoll" ∨ o = "bad-op") := by
  step_reduce
  rw [hs]
  split
  · -- `split` leaves one equation per matched token; the first of the five is
    -- `heq : some sid = some s'`: the store id the arm goes on with is `sid`
    rename_i heq _ _ _ _
    cases heq
    refine (withColl_readonly w sid _ st _ hst fun c => ?_).imp fun o h => ⟨h.1, h.2.elim .inl (.inr ∘ .inl)⟩
    exact if_pos hro
  · exact ⟨_, rfl, .inr (.inr rfl)⟩

theorem readonly_rejects_del (w : World) (s n k : String) (sid : Nat) (st : Store)
    (hs : s.toNat? = some sid) (hst : assocGet sid w.stores = some st) (hro : st.readOnly = true) :
    ∃ o, stepTokens w ["del", s, n, k] = (w, o) ∧ (o = "err-ro" ∨ o = "nocoll" ∨ o = "bad-op") := by
  step_reduce
  rw [hs]
  split
  · rename_i heq _ _
    cases heq
    refine (withColl_readonly w sid _ st _ hst fun c => ?_).imp fun o h => ⟨h.1, h.2.elim .inl (.inr ∘ .inl)⟩
    exact if_pos hro
  · exact ⟨_, rfl, .inr (.inr rfl)⟩

/-- Flush is refused through a read-only store and through a store without a file; the read-only
    check comes first, as in the package -/
theorem flush_refused (w : World) (s : String) (sid : Nat) (st : Store)
    (hs : s.toNat? = some sid) (hst : assocGet sid w.stores = some st)
    (h : st.readOnly = true ∨ st.file = none) :
    stepTokens w ["flush", s] = (w, if st.readOnly = true then "err-ro" else "err-nofile") := by
  step_reduce
  rw [hs]
  dsimp only
  rw [hst]
  dsimp only
  cases hro : st.readOnly with
  | true => rfl
  | false =>
    rw [h.resolve_left (by simp [hro])]
    rfl

/-- FlushRevert on a memory-only store is refused and nothing changes (C08's last clause) -/
theorem memory_only_rejects_revert (w : World) (s : String) (sid : Nat) (st : Store)
    (hs : s.toNat? = some sid) (hst : assocGet sid w.stores = some st) (hf : st.file = none) :
    stepTokens w ["revert", s] = (w, "err-nofile") := by
  step_reduce
  rw [hs]
  dsimp only
  rw [hst]
  simp [hf]

theorem close_keeps_files (w : World) (s : String) : (stepTokens w ["close", s]).1.files = w.files := by
  step_reduce
  split
  · split <;> rfl
  · rfl

theorem revert_readonly_keeps_file_bytes (w : World) (s : String) (sid fid : Nat) (st : Store)
    (hs : s.toNat? = some sid) (hst : assocGet sid w.stores = some st) (hro : st.readOnly = true)
    (hf : st.file = some fid) :
    ((stepTokens w ["revert", s]).1.file fid).bytes = (w.file fid).bytes := by
  step_reduce
  rw [hs]
  dsimp only
  rw [hst]
  dsimp only
  rw [hf]
  dsimp only
  split
  · rfl
  · simp [hro, World.file, assocGet_assocSet_eq]

theorem snap_is_value (w : World) (s s2 : String) (a b : Nat) (st : Store)
    (ha : s.toNat? = some a) (hb : s2.toNat? = some b) (hst : assocGet a w.stores = some st) :
    assocGet b (stepTokens w ["snap", s, s2]).1.stores = some { st with readOnly := true } := by
  step_reduce
  rw [ha, hb]
  dsimp only
  rw [hst]
  exact assocGet_assocSet_eq _ _ _

end Gkv
