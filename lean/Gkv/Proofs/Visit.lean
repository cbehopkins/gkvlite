/-
Range visits (`visitNodes` of collection.go): the stateful, early-stopping `visit` is the
fold-until-false of the visitor over `visitAsc` / `visitDesc`, and on a search tree those lists are
exactly the in-order list (with true depths) restricted to the keys `≥ tgt` / `< tgt`.
-/
import Gkv.Proofs.Split
open Std

namespace Gkv
namespace Tree

/-! ### control flow: `visit` = `foldUntil` over the visit list (no order hypotheses) -/

theorem foldUntil_append {σ : Type} (v : σ → Item → Nat → σ × Bool)
    (l1 l2 : List (Item × Nat)) (s : σ) :
    foldUntil v (l1 ++ l2) s =
      if !(foldUntil v l1 s).2 then ((foldUntil v l1 s).1, false)
      else foldUntil v l2 (foldUntil v l1 s).1 := by
  induction l1 generalizing s with
  | nil => simp [foldUntil]
  | cons hd rest ih =>
    obtain ⟨i, d⟩ := hd
    simp only [List.cons_append, foldUntil]
    by_cases hk : (v s i d).2 = true
    · simp [hk, ih]
    · simp [hk]

theorem foldUntil_cons {σ : Type} (v : σ → Item → Nat → σ × Bool)
    (i : Item) (d : Nat) (rest : List (Item × Nat)) (s : σ) :
    foldUntil v ((i, d) :: rest) s =
      if !(v s i d).2 then ((v s i d).1, false) else foldUntil v rest (v s i d).1 := rfl

section control
variable (cmp : Bytes → Bytes → Ordering)

theorem visit_asc_eq_foldUntil {σ : Type} (v : σ → Item → Nat → σ × Bool) (t : Tree) (tgt : Bytes)
    (d : Nat) (s : σ) :
    visit cmp true v t tgt d s = foldUntil v (visitAsc cmp t tgt d) s := by
  induction t generalizing d s with
  | nil => rfl
  | node l i a b r p q ihl ihr =>
    unfold visit visitAsc
    by_cases hc : cmp tgt i.key = .gt
    · simp [hc, ihr]
    · -- `visit` at a node is "near subtree; stop if it said stop; the item; stop if the visitor
      -- said stop; far subtree", which is literally what `foldUntil_append` and `foldUntil_cons`
      -- make of `foldUntil` over `near ++ (i, d) :: far`
      simp only [hc, if_true, if_false, bne_iff_ne, ne_eq, not_false_eq_true,
        foldUntil_append, foldUntil_cons, ihl, ihr]

theorem visit_desc_eq_foldUntil {σ : Type} (v : σ → Item → Nat → σ × Bool) (t : Tree) (tgt : Bytes)
    (d : Nat) (s : σ) :
    visit cmp false v t tgt d s = foldUntil v (visitDesc cmp t tgt d) s := by
  induction t generalizing d s with
  | nil => rfl
  | node l i a b r p q ihl ihr =>
    unfold visit visitDesc
    by_cases hc : cmp tgt i.key = .gt
    · simp [hc, foldUntil_append, foldUntil_cons, ihl, ihr]
    · simp [hc, ihl]

end control

theorem inorderD_map_fst (t : Tree) (d : Nat) : (inorderD t d).map (·.1) = t.toList := by
  induction t generalizing d with
  | nil => rfl
  | node l i a b r p q ihl ihr => simp [inorderD, toList, ihl, ihr]

theorem fst_mem_toList_of_mem_inorderD {t : Tree} {d : Nat} {p : Item × Nat}
    (h : p ∈ inorderD t d) : p.1 ∈ t.toList := by
  rw [← inorderD_map_fst t d]
  exact List.mem_map_of_mem h

variable (cmp : Bytes → Bytes → Ordering) [Std.TransCmp cmp]

theorem visitAsc_eq_filter {t : Tree} (h : BST cmp t) (tgt : Bytes) (d : Nat) :
    visitAsc cmp t tgt d = (inorderD t d).filter (fun p => cmp tgt p.1.key != .gt) := by
  induction t generalizing d with
  | nil => rfl
  | node l i a b r p q ihl ihr =>
    obtain ⟨hl, hr, hal, har⟩ := h
    unfold visitAsc
    simp only [inorderD, List.filter_append, List.filter_cons]
    by_cases hc : cmp tgt i.key = .gt
    · have hL : (inorderD l (d+1)).filter (fun p => cmp tgt p.1.key != .gt) = [] := by
        rw [List.filter_eq_nil_iff]
        intro x hx
        have h1 : cmp x.1.key i.key = .lt := hal.mem (fst_mem_toList_of_mem_inorderD hx)
        have h2 : cmp tgt x.1.key = .gt :=
          TransCmp.gt_trans hc (OrientedCmp.gt_of_lt h1)
        simp [h2]
      simp [hc, hL, ihr hr]
    · simp [hc, ihl hl, ihr hr]

theorem visitDesc_eq_filter {t : Tree} (h : BST cmp t) (tgt : Bytes) (d : Nat) :
    visitDesc cmp t tgt d = ((inorderD t d).filter (fun p => cmp tgt p.1.key == .gt)).reverse := by
  induction t generalizing d with
  | nil => rfl
  | node l i a b r p q ihl ihr =>
    obtain ⟨hl, hr, hal, har⟩ := h
    unfold visitDesc
    simp only [inorderD, List.filter_append, List.filter_cons]
    by_cases hc : cmp tgt i.key = .gt
    · simp [hc, ihl hl, ihr hr]
    · have hR : (inorderD r (d+1)).filter (fun p => cmp tgt p.1.key == .gt) = [] := by
        rw [List.filter_eq_nil_iff]
        intro x hx h2
        have h1 : cmp x.1.key i.key = .gt := har.mem (fst_mem_toList_of_mem_inorderD hx)
        exact hc (TransCmp.gt_trans (beq_iff_eq.mp h2) h1)
      simp [hc, hR, ihl hl]

omit [Std.TransCmp cmp] in
theorem filter_inorderD_sublist (t : Tree) (d : Nat) (P : Item × Nat → Bool) :
    (((inorderD t d).filter P).map (·.1)).Sublist t.toList := by
  rw [← inorderD_map_fst t d]
  exact List.Sublist.map _ List.filter_sublist

theorem visitAsc_sorted {t : Tree} (h : BST cmp t) (tgt : Bytes) (d : Nat) :
    ((visitAsc cmp t tgt d).map (·.1)).Pairwise (fun a b => cmp a.key b.key = .lt) := by
  rw [visitAsc_eq_filter cmp h]
  exact (toList_sorted cmp h).sublist (filter_inorderD_sublist t d _)

theorem visitDesc_sorted {t : Tree} (h : BST cmp t) (tgt : Bytes) (d : Nat) :
    ((visitDesc cmp t tgt d).map (·.1)).Pairwise (fun a b => cmp a.key b.key = .gt) := by
  rw [visitDesc_eq_filter cmp h, List.map_reverse, List.pairwise_reverse]
  exact ((toList_sorted cmp h).sublist (filter_inorderD_sublist t d _)).imp OrientedCmp.gt_of_lt

end Tree
end Gkv

#print axioms Gkv.Tree.visitAsc_eq_filter
#print axioms Gkv.Tree.visitDesc_eq_filter
#print axioms Gkv.Tree.visit_asc_eq_foldUntil
#print axioms Gkv.Tree.visit_desc_eq_foldUntil
#print axioms Gkv.Tree.inorderD_map_fst
#print axioms Gkv.Tree.visitAsc_sorted
#print axioms Gkv.Tree.visitDesc_sorted
