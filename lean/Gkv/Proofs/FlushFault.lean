/-
Property C07 "file errors are reported, never swallowed, and failed calls change nothing": `Flush`
under an arbitrary fault plan (`FileSt.failAt`/`torn`/`failed`).

A flush is a chain of item and record steps (`Steps`, FlushFrame.lean), so what the single writes
do to the plan the flush does (`Frame.plan`): a plan that is consumed has fired, and the flush
reports it.  Disarming the plan (`FileSt.clean`) commutes with every step that did not fail, so a
flush that did not fail wrote exactly what the fault-free flush writes.  Whatever happens, the
cached trees stay coherent with the file (`flushStore_coherent_any`, FlushCoherent.lean), so a
retried `Flush` is an ordinary `Flush`.
-/
import Gkv.Proofs.FlushCoherent

namespace Gkv

/-- "merely decremented or untouched": a flush that did not fail under an armed plan `k` leaves
    a plan `k' ≤ k` that is still armed (`k' ≥ 1`), or never was (`k = 0`, which never fires) -/
theorem flushStore_unfailed_plan (cs : List Coll) (s : FileSt) (k : Nat)
    (hk : s.failAt = some k) (hok : (flushStore cs s).2.failed = false) :
    ∃ k', (flushStore cs s).2.failAt = some k' ∧ k' ≤ k ∧ (1 ≤ k → 1 ≤ k') :=
  (flushStore_steps cs s).frame.plan k (fun _ => ⟨k, hk, Nat.le_refl _, fun h => h⟩) hok

set_option linter.unusedVariables false in
/-- if a plan is armed and it is consumed during the flush, the flush reports failure
    (`h0` is not needed: a flush entered in the failed state does nothing) -/
theorem flushStore_fault_reported (cs : List Coll) (s : FileSt) (h0 : s.failed = false)
    (k : Nat) (hk : s.failAt = some (k+1)) (hcons : (flushStore cs s).2.failAt = none) :
    (flushStore cs s).2.failed = true := by
  cases hf : (flushStore cs s).2.failed with
  | true => rfl
  | false =>
    obtain ⟨k', e, _⟩ := flushStore_unfailed_plan cs s (k+1) hk hf
    rw [hcons] at e
    cases e

theorem writeItems_unfailed (t : Tree) (s : FileSt) (h : (writeItems t s).2.failed = false) :
    s.failed = false := (writeItems_steps t s).unfailed h

theorem writeNodes_unfailed (t : Tree) (s : FileSt) (h : (writeNodes t s).2.failed = false) :
    s.failed = false := (writeNodes_steps t s).unfailed h

theorem writeTree_unfailed (t : Tree) (s : FileSt) (h : (writeTree t s).2.failed = false) :
    s.failed = false := (writeTree_steps t s).unfailed h

theorem flushColls_unfailed (cs : List Coll) (s : FileSt) (h : (flushColls cs s).2.failed = false) :
    s.failed = false := (flushColls_steps cs s).unfailed h

theorem flushStore_unfailed (cs : List Coll) (s : FileSt) (h : (flushStore cs s).2.failed = false) :
    s.failed = false := (flushStore_steps cs s).unfailed h

-- the FUNCTION that disarms the plan; `FileSt.Clean` (FlushFrame.lean) is the PREDICATE "no plan, not
-- failed".  Lemmas about the predicate are named `X_clean` / `X_of_clean` (FlushTiles.lean:
-- `writeAtOff_clean`, `advance_clean`, `recStep_of_clean`), those about this function `clean_X` and,
-- for the steps and the flush functions, `X_clean` (`clean_writeAtOff`, `recStep_clean`, … below).
def FileSt.clean (s : FileSt) : FileSt := { s with failAt := none }

@[simp] theorem clean_failed (s : FileSt) : s.clean.failed = s.failed := rfl
@[simp] theorem clean_size (s : FileSt) : s.clean.size = s.size := rfl
@[simp] theorem clean_bytes (s : FileSt) : s.clean.bytes = s.bytes := rfl
@[simp] theorem clean_failAt (s : FileSt) : s.clean.failAt = none := rfl

theorem clean_writeAtOff (s : FileSt) (off : Nat) (b : Bytes)
    (h : (s.writeAtOff off b).failed = false) :
    s.clean.writeAtOff off b = (s.writeAtOff off b).clean := by
  obtain ⟨bytes, size, log, failAt, torn, failed⟩ := s
  cases failed with
  | true => simp [FileSt.writeAtOff] at h
  | false =>
    rcases failAt with _ | _ | _ | k
    · rfl
    · rfl
    · simp [FileSt.writeAtOff] at h
    · rfl

theorem clean_advance (s : FileSt) (n : Nat) : s.clean.advance n = (s.advance n).clean := by
  unfold FileSt.advance
  rw [clean_failed]
  split <;> rfl

theorem itemStep_clean (s : FileSt) (i : Item) (h : (itemStep s i).failed = false) :
    itemStep s.clean i = (itemStep s i).clean := by
  have h2 := (advance_ok _ _ h).1
  have h1 := (writeAtOff_ok _ _ _ h2).1
  unfold itemStep FileSt.write at *
  rw [clean_size, clean_writeAtOff _ _ _ h1, clean_writeAtOff _ _ _ h2, clean_advance]

theorem recStep_clean (s : FileSt) (b : Bytes) (n : Nat) (h : (recStep s b n).failed = false) :
    recStep s.clean b n = (recStep s b n).clean := by
  have h1 := (advance_ok _ _ h).1
  unfold recStep FileSt.write at *
  rw [clean_size, clean_writeAtOff _ _ _ h1, clean_advance]

theorem writeItems_clean (t : Tree) (s : FileSt) (h : (writeItems t s).2.failed = false) :
    writeItems t s.clean = ((writeItems t s).1, (writeItems t s).2.clean) := by
  induction t generalizing s with
  | nil => rfl
  | node l i a b r p q ihl ihr =>
    cases p with
    | some p => rfl
    | none =>
      cases q with
      | some il =>
        rw [writeItems_node_ns] at h
        rw [writeItems_node_ns, writeItems_node_ns, ihl s (writeItems_unfailed r _ h), ihr _ h]
      | none =>
        rw [writeItems_node_nn] at h
        have h2 := writeItems_unfailed r _ h
        rw [writeItems_node_nn, writeItems_node_nn, ihl s (((Steps.refl _).item i).unfailed h2),
          itemStep_clean _ _ h2, ihr _ h]
        rfl

theorem writeNodes_clean (t : Tree) (s : FileSt) (h : (writeNodes t s).2.failed = false) :
    writeNodes t s.clean = ((writeNodes t s).1, (writeNodes t s).2.clean) := by
  induction t generalizing s with
  | nil => rfl
  | node l i a b r p q ihl ihr =>
    cases p with
    | some p => rfl
    | none =>
      rw [writeNodes_node_n] at h
      have h2 := (recStep_ok _ _ _ h).1
      rw [writeNodes_node_n, writeNodes_node_n, ihl s (writeNodes_unfailed r _ h2), ihr _ h2,
        recStep_clean _ _ _ h]
      rfl

theorem writeTree_clean (t : Tree) (s : FileSt) (h : (writeTree t s).2.failed = false) :
    writeTree t s.clean = ((writeTree t s).1, (writeTree t s).2.clean) := by
  rw [writeTree_eq] at h
  rw [writeTree_eq, writeTree_eq, writeItems_clean t s (writeNodes_unfailed _ _ h),
    writeNodes_clean _ _ h]

theorem flushColls_clean (cs : List Coll) (s : FileSt) (h : (flushColls cs s).2.failed = false) :
    flushColls cs s.clean = ((flushColls cs s).1, (flushColls cs s).2.clean) := by
  induction cs generalizing s with
  | nil => rfl
  | cons c rest ih =>
    rw [flushColls_cons] at h
    rw [flushColls_cons, flushColls_cons, writeTree_clean c.root s (flushColls_unfailed rest _ h),
      ih _ h]

/-- a flush that did not fail is, plan aside, the fault-free flush: same collections, same file
    state (bytes, size, log) -/
theorem flushStore_clean (cs : List Coll) (s : FileSt) (h : (flushStore cs s).2.failed = false) :
    flushStore cs s.clean = ((flushStore cs s).1, (flushStore cs s).2.clean) := by
  rw [flushStore_eq] at h
  rw [flushStore_eq, flushStore_eq, flushColls_clean cs s (recStep_ok _ _ _ h).1, clean_size,
    recStep_clean _ _ _ h]

set_option linter.unusedVariables false in
/-- a flush that did not fail wrote exactly what a fault-free flush writes (`h0` follows from
    `hok`, failure being sticky) -/
theorem flushStore_unfailed_same_bytes (cs : List Coll) (s : FileSt) (h0 : s.failed = false)
    (hok : (flushStore cs s).2.failed = false) :
    (flushStore cs s).2.bytes = (flushStore cs { s with failAt := none }).2.bytes ∧
    (flushStore cs s).2.size = (flushStore cs { s with failAt := none }).2.size ∧
    (flushStore cs s).1 = (flushStore cs { s with failAt := none }).1 := by
  have e := flushStore_clean cs s hok
  show _ = (flushStore cs s.clean).2.bytes ∧ _ = (flushStore cs s.clean).2.size ∧
    _ = (flushStore cs s.clean).1
  rw [e]
  exact ⟨rfl, rfl, rfl⟩

theorem flushStore_unfailed_same_log (cs : List Coll) (s : FileSt)
    (hok : (flushStore cs s).2.failed = false) :
    (flushStore cs s).2.log = (flushStore cs { s with failAt := none }).2.log := by
  have e := flushStore_clean cs s hok
  show _ = (flushStore cs s.clean).2.log
  rw [e]
  rfl

/-- the retry: after a flush that failed, the caller's store (`size` and cached trees as the
    failed flush left them) satisfies every hypothesis of `flushStore_coherent` again once the
    file's fault is gone -/
theorem flushStore_retry_ready (cs : List Coll) (s : FileSt) (hsz : s.size ≤ s.bytes.length)
    (hc : ∀ c ∈ cs, c.root.Coherent s.bytes s.size) (hok : ∀ c ∈ cs, c.root.SizesOK)
    (hlim : (flushStore cs s).2.size < 2^32) :
    (flushStore cs s).2.size ≤ (flushStore cs s).2.bytes.length ∧
    (∀ c ∈ (flushStore cs s).1,
      c.root.Coherent (flushStore cs s).2.bytes (flushStore cs s).2.size) ∧
    (flushStore cs s).1.map (fun c => (c.name, c.cmp, c.root.eraseLocs)) =
      cs.map (fun c => (c.name, c.cmp, c.root.eraseLocs)) :=
  ⟨(flushStore_steps cs s).wf hsz,
    fun c hcm => (flushStore_coherent_any cs s hsz hc hok hlim c hcm).1, flushStore_eraseLocs cs s⟩

end Gkv
