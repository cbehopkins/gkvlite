/-
Property C11, clause "when flushEvery > 0 the destination file holds only live data (no superseded
item versions)".

`copyTo src fe` re-inserts every source item into a fresh destination store and flushes the
destination every `fe` items and once at the end.  Node records ARE superseded (every periodic
flush persists the path to the root, the next `SetItem` rebuilds it), item records are not.

To speak of "the records written", instrumented twins `writeItemsW … copyToW` stand beside the
originals: they return what the originals return (`copyToW_fst`) and, in addition, the list of item
records written — exactly what went to the log (`writeItemsW_log`) — and the number of node
records written.

`itemLocs t` lists the items of a tree with their locations.  `SetItem` of a key not yet in the
tree keeps every pair and adds `(i, none)` (`setItem_itemLocs`, a permutation: it never clears or
drops an item location); a fault-free Flush of trees built by flushes and `SetItem`s (`Closed`)
keeps the located pairs and locates every other one at a new record (`flushStoreW_spec`).  Hence
the invariant of the whole run (`Ledger`): the item records written so far are, one for one, the
located pairs the destination holds, at ascending places below `size`.  Its reading at the end is
`copyToW_ledger`, for `fe > 0`, source collections with different names (`DistinctNames`) and,
within a collection, keys that the comparator tells apart (`DistinctKeys`; both follow from the
hypotheses of `Props.C11.copy_equivalent`); the theorems after it are its corollaries.

Each hypothesis is needed (`dupKey_superseded`, `foldKey_superseded`, `dupName_superseded`,
`no_flush_no_records`): those inputs are not states of a store (`collsSet` keeps names distinct,
`SetItem` keeps search order), but the model's `copyTo` accepts any `List Coll`.

Fault-free plan only (`failAt = none`): `copyTo` starts from the empty file without a fault plan.
-/
import Gkv.Proofs.CopyContents
import Gkv.Proofs.FlushTiles
import Gkv.Proofs.Colls
open Std

namespace Gkv.CopyCompact
open Gkv Tree

/-- an item record written by a flush: the item and where its record went -/
abbrev ItemRec := Item × Ploc

/-- `writeItems`, also returning the item records written (in write order) -/
def writeItemsW : Tree → FileSt → (Tree × FileSt) × List ItemRec
  | .nil, s => ((.nil, s), [])
  | .node l i a b r (some p) q, s => ((.node l i a b r (some p) q, s), [])
  | .node l i a b r none q, s =>
    let x := writeItemsW l s
    match q with
    | some il =>
      let y := writeItemsW r x.1.2
      ((.node x.1.1 i a b y.1.1 none (some il), y.1.2), x.2 ++ y.2)
    | none =>
      if x.1.2.failed then ((.node x.1.1 i a b r none none, x.1.2), x.2) else
      let off := x.1.2.size
      let s1a := x.1.2.write (encItemHdrKey i)
      let s1b := s1a.writeAtOff (off + (encItemHdrKey i).length) i.val
      let s1c := s1b.advance (itemRecLen i)
      if s1c.failed then ((.node x.1.1 i a b r none none, s1c), x.2) else
      let y := writeItemsW r s1c
      ((.node x.1.1 i a b y.1.1 none (some ⟨off, itemRecLen i⟩), y.1.2),
        x.2 ++ (i, ⟨off, itemRecLen i⟩) :: y.2)

/-- `writeNodes`, also returning the number of node records written -/
def writeNodesW : Tree → FileSt → (Tree × FileSt) × Nat
  | .nil, s => ((.nil, s), 0)
  | .node l i a b r (some p) q, s => ((.node l i a b r (some p) q, s), 0)
  | .node l i a b r none q, s =>
    let x := writeNodesW l s
    let y := writeNodesW r x.1.2
    if y.1.2.failed then ((.node x.1.1 i a b y.1.1 none q, y.1.2), x.2 + y.2) else
    let off := y.1.2.size
    let rec_ := encNode { item := q, left := x.1.1.slotLoc, right := y.1.1.slotLoc, nn := a, nb := b }
    let s3 := (y.1.2.write rec_).advance nodeRecLen
    if s3.failed then ((.node x.1.1 i a b y.1.1 none q, s3), x.2 + y.2) else
    ((.node x.1.1 i a b y.1.1 (some ⟨off, nodeRecLen⟩) q, s3), x.2 + y.2 + 1)

/-- what a flush wrote: item records and the number of node records -/
structure Wrote where
  items : List ItemRec := []
  nodes : Nat := 0
deriving Repr

def Wrote.add (a b : Wrote) : Wrote := ⟨a.items ++ b.items, a.nodes + b.nodes⟩

def writeTreeW (t : Tree) (s : FileSt) : (Tree × FileSt) × Wrote :=
  let x := writeItemsW t s
  if x.1.2.failed then (x.1, ⟨x.2, 0⟩) else
  let y := writeNodesW x.1.1 x.1.2
  (y.1, ⟨x.2, y.2⟩)

def flushCollsW : List Coll → FileSt → (List Coll × FileSt) × Wrote
  | [], s => (([], s), {})
  | c :: rest, s =>
    let x := writeTreeW c.root s
    if x.1.2.failed then (({ c with root := x.1.1 } :: rest, x.1.2), x.2) else
    let y := flushCollsW rest x.1.2
    (({ c with root := x.1.1 } :: y.1.1, y.1.2), x.2.add y.2)

def flushStoreW (cs : List Coll) (s : FileSt) : (List Coll × FileSt) × Wrote :=
  let x := flushCollsW cs s
  if x.1.2.failed then x else
  let rec_ := encRoot x.1.2.size (rootEntries x.1.1)
  ((x.1.1, (x.1.2.write rec_).advance rec_.length), x.2)

def copyItemsW (fe : Nat) (name : Bytes) (cmp : CmpKind) :
    List Item → Nat → List Coll → FileSt → (List Coll × FileSt) × Wrote
  | [], _, cs, s => ((cs, s), {})
  | i :: rest, n, cs, s =>
    let c := (collsGet name cs).getD ⟨name, cmp, .nil⟩
    let cs1 := collsSet { c with root := Tree.setItem cmp.fn c.root i } cs
    let n1 := n + 1
    if fe > 0 ∧ n1 % fe = 0 then
      let x := flushStoreW cs1 s
      let y := copyItemsW fe name cmp rest n1 x.1.1 x.1.2
      (y.1, x.2.add y.2)
    else copyItemsW fe name cmp rest n1 cs1 s

def copyCollsW (fe : Nat) : List Coll → List Coll → FileSt → (List Coll × FileSt) × Wrote
  | [], cs, s => ((cs, s), {})
  | c :: rest, cs, s =>
    let cs0 := collsSet ⟨c.name, c.cmp, .nil⟩ cs
    let x := copyItemsW fe c.name c.cmp c.root.toList 0 cs0 s
    let y := copyCollsW fe rest x.1.1 x.1.2
    (y.1, x.2.add y.2)

/-- `copyTo`, also returning everything it wrote to the destination -/
def copyToW (src : List Coll) (fe : Int) : (List Coll × FileSt) × Wrote :=
  let feN := if fe > 0 then fe.toNat else 0
  let x := copyCollsW feN src [] { bytes := [], size := 0, log := [] }
  if fe > 0 then
    let y := flushStoreW x.1.1 x.1.2
    (y.1, x.2.add y.2)
  else x

theorem writeItemsW_fst (t : Tree) (s : FileSt) : (writeItemsW t s).1 = writeItems t s := by
  induction t generalizing s with
  | nil => rfl
  | node l i a b r p q ihl ihr =>
    cases p with
    | some p => rfl
    | none =>
      cases q with
      | some il =>
        simp only [writeItems, writeItemsW, ihl, ihr]
      | none =>
        simp only [writeItems, writeItemsW, ihl]
        split
        · rfl
        · split
          · rfl
          · simp only [ihr]

theorem writeNodesW_fst (t : Tree) (s : FileSt) : (writeNodesW t s).1 = writeNodes t s := by
  induction t generalizing s with
  | nil => rfl
  | node l i a b r p q ihl ihr =>
    cases p with
    | some p => rfl
    | none =>
      simp only [writeNodes, writeNodesW, ihl, ihr]
      split
      · rfl
      · split <;> rfl

theorem writeTreeW_fst (t : Tree) (s : FileSt) : (writeTreeW t s).1 = writeTree t s := by
  simp only [writeTree, writeTreeW, writeItemsW_fst]
  split
  · rfl
  · simp only [writeNodesW_fst]

theorem flushCollsW_fst (cs : List Coll) (s : FileSt) : (flushCollsW cs s).1 = flushColls cs s := by
  induction cs generalizing s with
  | nil => rfl
  | cons c rest ih =>
    simp only [flushColls, flushCollsW, writeTreeW_fst]
    split
    · rfl
    · simp only [ih]

theorem flushStoreW_fst (cs : List Coll) (s : FileSt) : (flushStoreW cs s).1 = flushStore cs s := by
  simp only [flushStore, flushStoreW]
  split
  · next h => rw [flushCollsW_fst] at h ⊢; rw [if_pos h]
  · next h => rw [flushCollsW_fst] at h ⊢; rw [if_neg h]

theorem copyItemsW_fst (fe : Nat) (name : Bytes) (cmp : CmpKind) (is : List Item) (n : Nat)
    (cs : List Coll) (s : FileSt) :
    (copyItemsW fe name cmp is n cs s).1 = copyItems fe name cmp is n cs s := by
  induction is generalizing n cs s with
  | nil => rfl
  | cons i rest ih =>
    simp only [copyItems, copyItemsW]
    split
    · simp only [ih, flushStoreW_fst]
    · exact ih _ _ _

theorem copyCollsW_fst (fe : Nat) (src cs : List Coll) (s : FileSt) :
    (copyCollsW fe src cs s).1 = copyColls fe src cs s := by
  induction src generalizing cs s with
  | nil => rfl
  | cons c rest ih =>
    simp only [copyColls, copyCollsW, ih, copyItemsW_fst]

theorem copyToW_fst (src : List Coll) (fe : Int) : (copyToW src fe).1 = copyTo src fe := by
  simp only [copyTo, copyToW]
  split
  · simp only [flushStoreW_fst, copyCollsW_fst]
  · simp only [copyCollsW_fst]

/-- sum over all nodes of a weight of the node's item location -/
def cnt (w : Option Ploc → Nat) : Tree → Nat
  | .nil => 0
  | .node l _ _ _ r _ q => cnt w l + w q + cnt w r

/-- weight 1 for an item that has no record on file yet -/
def own : Option Ploc → Nat
  | none => 1
  | some _ => 0

/-- number of items (anywhere in the tree) without an item record -/
def unlocated (t : Tree) : Nat := cnt own t

/-- a node that has a record has its item and its whole subtree on file (what `Coherent` implies,
    without reference to file contents) -/
def Closed : Tree → Prop
  | .nil => True
  | .node l _ _ _ r p q =>
    Closed l ∧ Closed r ∧ (p.isSome → q.isSome ∧ unlocated l = 0 ∧ unlocated r = 0)

/-- in-order: every item with the location of its record -/
def itemLocs : Tree → List (Item × Option Ploc)
  | .nil => []
  | .node l i _ _ r _ q => itemLocs l ++ (i, q) :: itemLocs r

/-- all (item, item location) pairs of a store -/
def allLocs (cs : List Coll) : List (Item × Option Ploc) := cs.flatMap (fun c => itemLocs c.root)

/-- the (item, location) pair that a written record stands for -/
def lift (r : ItemRec) : Item × Option Ploc := (r.1, some r.2)

def located (l : List (Item × Option Ploc)) : List (Item × Option Ploc) := l.filter (·.2.isSome)

theorem itemLocs_mk (l r : Tree) (i : Item) (q : Option Ploc) :
    itemLocs (mk l i r q) = itemLocs l ++ (i, q) :: itemLocs r := rfl

theorem itemLocs_fst (t : Tree) : (itemLocs t).map Prod.fst = t.toList := by
  induction t with
  | nil => rfl
  | node l i a b r p q ihl ihr => simp only [itemLocs, toList, List.map_append, List.map_cons, ihl, ihr]

theorem allLocs_cons (c : Coll) (cs : List Coll) : allLocs (c :: cs) = itemLocs c.root ++ allLocs cs :=
  rfl

theorem located_append (a b : List (Item × Option Ploc)) :
    located (a ++ b) = located a ++ located b := List.filter_append ..

theorem located_cons_some (i : Item) (p : Ploc) (l : List (Item × Option Ploc)) :
    located ((i, some p) :: l) = (i, some p) :: located l := rfl

theorem located_cons_none (i : Item) (l : List (Item × Option Ploc)) :
    located ((i, none) :: l) = located l := rfl

theorem unlocated_zero_iff (t : Tree) : unlocated t = 0 ↔ ∀ x ∈ itemLocs t, x.2.isSome := by
  induction t with
  | nil => simp [unlocated, cnt, itemLocs]
  | node l i a b r p q ihl ihr =>
    simp only [unlocated] at ihl ihr ⊢
    simp only [cnt, itemLocs, List.forall_mem_append, List.forall_mem_cons, ← ihl, ← ihr,
      Nat.add_eq_zero_iff, and_assoc]
    cases q with
    | none => simp [own]
    | some _ => simp [own]

theorem located_eq_self {t : Tree} (h : unlocated t = 0) : located (itemLocs t) = itemLocs t :=
  List.filter_eq_self.mpr ((unlocated_zero_iff t).mp h)

theorem closed_of_unlocated : ∀ {t : Tree}, unlocated t = 0 → Closed t
  | .nil, _ => trivial
  | .node l i a b r p q, h => by
    simp only [unlocated, cnt] at h
    have h1 : unlocated l = 0 := by simp only [unlocated]; omega
    have h2 : unlocated r = 0 := by simp only [unlocated]; omega
    refine ⟨closed_of_unlocated h1, closed_of_unlocated h2, fun _ => ⟨?_, h1, h2⟩⟩
    cases q with
    | none => simp only [own] at h; omega
    | some _ => rfl

section algo
variable (cmp : Bytes → Bytes → Ordering)

theorem split_itemLocs (t : Tree) (s : Bytes) (h : ∀ j ∈ t.toList, cmp s j.key ≠ .eq) :
    itemLocs (split cmp t s).1 ++ itemLocs (split cmp t s).2.2 = itemLocs t := by
  fun_induction split cmp t s
  case case1 => rfl
  case case2 heq => exact absurd heq (h _ (by simp [toList]))
  case case3 => rfl
  case case4 ih =>
    rw [itemLocs_mk, ← List.append_assoc, ih fun j hj => h j (by simp [toList, hj])]
    rfl
  case case5 => exact List.append_nil _
  case case6 ih =>
    rw [itemLocs_mk, List.append_assoc, List.cons_append, ih fun j hj => h j (by simp [toList, hj])]
    rfl

theorem structural_closed : Structural Closed fun _ _ => True :=
  ⟨trivial, fun h => ⟨h.1, trivial, h.2.1⟩, fun hl _ hr => ⟨hl, hr, fun h => by cases h⟩⟩

theorem setItem_mem (t : Tree) (i j : Item) (h : j ∈ (Tree.setItem cmp t i).toList) :
    j = i ∨ j ∈ t.toList :=
  ((structural_all fun j => j = i ∨ j ∈ t.toList).setItem cmp
    ((All_iff_toList t).mpr fun _ h => Or.inr h) (Or.inl rfl)).mem h

variable [OrientedCmp cmp]

/-- `SetItem` of a key that is not in the tree: every old item keeps its location (none is
    cleared, none is dropped), and there is one more item, without a location -/
theorem setItem_itemLocs (t : Tree) (i : Item) (h : ∀ j ∈ t.toList, cmp j.key i.key ≠ .eq) :
    (itemLocs (setItem cmp t i)).Perm ((i, none) :: itemLocs t) := by
  induction t with
  | nil => rw [setItem_nil]; exact .refl _
  | node l j a b r p q ihl ihr =>
    have hl := ihl fun k hk => h k (List.mem_append_left _ hk)
    have hr := ihr fun k hk => h k (List.mem_append_right _ (List.mem_cons_of_mem _ hk))
    rw [setItem_node]
    split
    · split
      · next e => exact absurd e (h j (List.mem_append_right _ (List.mem_cons_self ..)))
      · -- into the right subtree: the new pair moves in front of the root's, then of the left part
        exact (((hr.cons _).trans (.swap ..)).append_left _).trans List.perm_middle
      · exact hl.append_right _
    · -- the key is new, so the outer parts of the `split` hold every pair
      rw [itemLocs_mk, ← split_itemLocs cmp (node l j a b r p q) i.key
        fun k hk e => h k hk (OrientedCmp.eq_symm e)]
      exact List.perm_middle

end algo

/-- item records in ascending file order, one after the end of the other (not necessarily
    adjacent: node and root records lie in between), each as long as its item's record, between
    `lo` and `hi` -/
def Asc : Nat → List ItemRec → Nat → Prop
  | lo, [], hi => lo ≤ hi
  | lo, r :: rest, hi => lo ≤ r.2.off ∧ r.2.len = itemRecLen r.1 ∧ Asc (r.2.off + r.2.len) rest hi

theorem Asc.le : ∀ {lo hi : Nat} {l : List ItemRec}, Asc lo l hi → lo ≤ hi
  | _, _, [], h => h
  | _, _, _ :: _, h => by
    have := Asc.le h.2.2
    have := h.1
    omega

theorem Asc.mono_hi : ∀ {lo hi hi' : Nat} {l : List ItemRec}, Asc lo l hi → hi ≤ hi' → Asc lo l hi'
  | _, _, _, [], h, h' => Nat.le_trans h h'
  | _, _, _, _ :: _, h, h' => ⟨h.1, h.2.1, Asc.mono_hi h.2.2 h'⟩

theorem Asc.append : ∀ {a b c : Nat} {l1 l2 : List ItemRec}, Asc a l1 b → Asc b l2 c →
    Asc a (l1 ++ l2) c
  | _, _, _, [], [], h1, h2 => Nat.le_trans h1 h2
  | _, _, _, [], _ :: _, h1, h2 => ⟨Nat.le_trans h1 h2.1, h2.2.1, h2.2.2⟩
  | _, _, _, _ :: _, _, h1, h2 => ⟨h1.1, h1.2.1, Asc.append h1.2.2 h2⟩

theorem Asc.within : ∀ {lo hi : Nat} {l : List ItemRec}, Asc lo l hi →
    ∀ r ∈ l, lo ≤ r.2.off ∧ r.2.len = itemRecLen r.1 ∧ r.2.off + r.2.len ≤ hi
  | _, _, _ :: _, h, r, hr => by
    rcases List.mem_cons.mp hr with rfl | hr
    · exact ⟨h.1, h.2.1, h.2.2.le⟩
    · -- `r` lies behind the end of the first record
      have := h.2.2.within r hr
      exact ⟨Nat.le_trans (Nat.le_trans h.1 (Nat.le_add_right _ _)) this.1, this.2⟩

theorem Asc.pairwise : ∀ {lo hi : Nat} {l : List ItemRec}, Asc lo l hi →
    l.Pairwise (fun r r' => r.2.off + r.2.len ≤ r'.2.off)
  | _, _, [], _ => List.Pairwise.nil
  | _, _, _ :: _, h =>
    List.pairwise_cons.mpr ⟨fun r' hr' => (Asc.within h.2.2 r' hr').1, Asc.pairwise h.2.2⟩

/-- two parts, each flushed: the pairs kept come first and the records written last, part by part -/
theorem perm_blocks {α : Type} {A B a b x y : List α} (h1 : A.Perm (a ++ x)) (h2 : B.Perm (b ++ y)) :
    (A ++ B).Perm ((a ++ b) ++ (x ++ y)) := by
  refine (h1.append h2).trans ?_
  rw [List.append_assoc, List.append_assoc]
  exact (List.perm_append_comm_assoc ..).append_left _

theorem writeItemsW_clean (t : Tree) (s : FileSt) (h : s.Clean) : (writeItemsW t s).1.2.Clean := by
  rw [writeItemsW_fst]; exact (writeItems_steps t s).frame.noplan h

/-- a fault-free `writeItems` of a tree whose located nodes are closed: the records written lie at
    ascending places from the old `size`, and afterwards the tree holds its old located pairs and
    one located pair per record written, nothing else -/
theorem writeItemsW_spec (t : Tree) (s : FileSt) (h : s.Clean) (hc : Closed t) :
    Asc s.size (writeItemsW t s).2 (writeItemsW t s).1.2.size ∧
    (itemLocs (writeItemsW t s).1.1).Perm (located (itemLocs t) ++ (writeItemsW t s).2.map lift) := by
  induction t generalizing s with
  | nil => exact ⟨Nat.le_refl _, .refl _⟩
  | node l i a b r p q ihl ihr =>
    obtain ⟨hl, hr, hp⟩ := hc
    cases p with
    | some p =>
      -- skipped: the node has a record, so everything below it is located already
      refine ⟨Nat.le_refl _, ?_⟩
      obtain ⟨hq, u1, u2⟩ := hp rfl
      obtain ⟨il, rfl⟩ := Option.isSome_iff_exists.mp hq
      simp only [writeItemsW, itemLocs, located_append, located_cons_some, located_eq_self u1,
        located_eq_self u2, List.map_nil, List.append_nil]
      exact .refl _
    | none =>
      have h1 := writeItemsW_clean l s h
      obtain ⟨c1, p1⟩ := ihl s h hl
      cases q with
      | some il =>
        obtain ⟨c2, p2⟩ := ihr _ h1 hr
        refine ⟨Asc.append c1 c2, ?_⟩
        simp only [writeItemsW, itemLocs, located_append, located_cons_some, List.map_append]
        exact perm_blocks p1 (p2.cons _)
      | none =>
        simp only [writeItemsW]
        rw [if_neg (clean_not_failed h1)]
        have h2 := (itemStep_frame (writeItemsW l s).1.2 i).noplan h1
        rw [itemStep] at h2
        rw [if_neg (clean_not_failed h2)]
        obtain ⟨c2, p2⟩ := ihr _ h2 hr
        -- the state after the item record, explicitly: `size` has advanced by the record's length
        rw [twoWrites_of_clean _ h1] at c2 p2 ⊢
        refine ⟨Asc.append c1 ⟨Nat.le_refl _, rfl, c2⟩, ?_⟩
        simp only [itemLocs, located_append, located_cons_none, List.map_append, List.map_cons, lift]
        -- the root's new pair is the first of the records written from here on
        exact perm_blocks p1 ((p2.cons _).trans List.perm_middle.symm)

theorem writeNodes_itemLocs (t : Tree) (s : FileSt) : itemLocs (writeNodes t s).1 = itemLocs t := by
  induction t generalizing s with
  | nil => rfl
  | node l i a b r p q ihl ihr =>
    cases p with
    | some p => rfl
    | none =>
      simp only [writeNodes]
      split
      · simp only [itemLocs, ihl, ihr]
      · split <;> simp only [itemLocs, ihl, ihr]

theorem writeTreeW_spec (t : Tree) (s : FileSt) (h : s.Clean) (hc : Closed t) :
    (writeTreeW t s).1.2.Clean ∧ Asc s.size (writeTreeW t s).2.items (writeTreeW t s).1.2.size ∧
    (itemLocs (writeTreeW t s).1.1).Perm
      (located (itemLocs t) ++ (writeTreeW t s).2.items.map lift) := by
  have hcl : (writeTreeW t s).1.2.Clean := by
    rw [writeTreeW_fst]; exact (writeTree_steps t s).frame.noplan h
  obtain ⟨c1, p1⟩ := writeItemsW_spec t s h hc
  simp only [writeTreeW] at hcl ⊢
  rw [if_neg (clean_not_failed (writeItemsW_clean t s h))] at hcl ⊢
  simp only [writeNodesW_fst, writeNodes_itemLocs] at hcl ⊢
  exact ⟨hcl, Asc.mono_hi c1 (writeNodes_size_mono _ _), p1⟩

theorem flushCollsW_spec (cs : List Coll) (s : FileSt) (h : s.Clean)
    (hc : ∀ c ∈ cs, Closed c.root) :
    (flushCollsW cs s).1.2.Clean ∧
    Asc s.size (flushCollsW cs s).2.items (flushCollsW cs s).1.2.size ∧
    (allLocs (flushCollsW cs s).1.1).Perm
      (located (allLocs cs) ++ (flushCollsW cs s).2.items.map lift) := by
  induction cs generalizing s with
  | nil => exact ⟨h, Nat.le_refl _, .refl _⟩
  | cons c rest ih =>
    obtain ⟨h1, c1, p1⟩ := writeTreeW_spec c.root s h (hc c (List.mem_cons_self ..))
    obtain ⟨h2, c2, p2⟩ := ih _ h1 fun d hd => hc d (List.mem_cons_of_mem _ hd)
    simp only [flushCollsW]
    rw [if_neg (clean_not_failed h1)]
    refine ⟨h2, Asc.append c1 c2, ?_⟩
    simp only [allLocs_cons, located_append, Wrote.add, List.map_append]
    exact perm_blocks p1 p2

theorem flushStoreW_spec (cs : List Coll) (s : FileSt) (h : s.Clean)
    (hc : ∀ c ∈ cs, Closed c.root) :
    (flushStoreW cs s).1.2.Clean ∧
    Asc s.size (flushStoreW cs s).2.items (flushStoreW cs s).1.2.size ∧
    (allLocs (flushStoreW cs s).1.1).Perm
      (located (allLocs cs) ++ (flushStoreW cs s).2.items.map lift) := by
  have hcl : (flushStoreW cs s).1.2.Clean := by
    rw [flushStoreW_fst]; exact (flushStore_steps cs s).frame.noplan h
  obtain ⟨h1, c1, p1⟩ := flushCollsW_spec cs s h hc
  simp only [flushStoreW] at hcl ⊢
  rw [if_neg (clean_not_failed h1)] at hcl ⊢
  exact ⟨hcl, Asc.mono_hi c1 (recStep_frame _ _ _).size_mono, p1⟩

/-- strictly sorted by name: the shape `collsSet` keeps -/
def SortedNames (cs : List Coll) : Prop := cs.Pairwise (fun a b => compare a.name b.name = .lt)

/-- replacing (or adding) a collection in a name-sorted list: its pairs take the place of the pairs
    of the collection that `collsGet` finds under that name -/
theorem allLocs_collsSet (d : Coll) : ∀ cs : List Coll, SortedNames cs →
    (allLocs (collsSet d cs) ++ ((collsGet d.name cs).elim [] (itemLocs ·.root))).Perm
      (allLocs cs ++ itemLocs d.root)
  | [], _ => by
    rw [collsSet, collsGet, Option.elim_none, List.append_nil]
    exact List.perm_append_comm
  | e :: rest, hs => by
    obtain ⟨h1, h2⟩ := List.pairwise_cons.mp hs
    rw [collsSet, collsGet]
    split
    next hlt =>
      -- `d` is below all names: nothing is found under its name, nothing is replaced
      rw [if_neg (ne_of_compare_lt hlt).symm, collsGet_none fun x hx =>
        (ne_of_compare_lt (TransCmp.lt_trans hlt (h1 x hx))).symm, Option.elim_none, List.append_nil,
        allLocs_cons]
      exact List.perm_append_comm
    next heq =>
      rw [if_pos (LawfulEqCmp.eq_of_compare heq).symm, Option.elim_some, allLocs_cons, allLocs_cons,
        List.append_assoc _ _ (itemLocs d.root)]
      -- the first block (`d`'s pairs) and the last (`e`'s pairs) change places
      exact List.perm_append_comm.trans (List.perm_append_comm.append_left _)
    next hgt =>
      rw [if_neg (ne_of_compare_gt hgt).symm, allLocs_cons, allLocs_cons, List.append_assoc,
        List.append_assoc]
      exact (allLocs_collsSet d rest h2).append_left _

theorem cur_name (name : Bytes) (cmp : CmpKind) (cs : List Coll) : (copyCur name cmp cs).name = name := by
  unfold copyCur
  cases h : collsGet name cs with
  | none => rfl
  | some c => exact (collsGet_some h).2

theorem cur_closed (name : Bytes) (cmp : CmpKind) (cs : List Coll) (h : ∀ c ∈ cs, Closed c.root) :
    Closed (copyCur name cmp cs).root := by
  unfold copyCur
  cases e : collsGet name cs with
  | none => exact trivial
  | some c => exact h c (collsGet_some e).1

theorem allLocs_step (name : Bytes) (cmp : CmpKind) (cs : List Coll) (hs : SortedNames cs)
    (t' : Tree) :
    (allLocs (collsSet { copyCur name cmp cs with root := t' } cs) ++ itemLocs (copyCur name cmp cs).root).Perm
      (allLocs cs ++ itemLocs t') := by
  have h := allLocs_collsSet { copyCur name cmp cs with root := t' } cs hs
  rw [show ({ copyCur name cmp cs with root := t' } : Coll).name = name from cur_name name cmp cs] at h
  have e : (collsGet name cs).elim [] (itemLocs ·.root) = itemLocs (copyCur name cmp cs).root := by
    unfold copyCur; cases collsGet name cs <;> rfl
  rwa [e] at h

abbrev totLen (cs : List Coll) : Nat := (cs.map (fun c => c.root.toList.length)).sum

theorem allLocs_length (cs : List Coll) : (allLocs cs).length = totLen cs := by
  induction cs with
  | nil => rfl
  | cons c rest ih =>
    rw [allLocs_cons, List.length_append, ih, ← List.length_map (f := Prod.fst), itemLocs_fst]
    rfl

def names (cs : List Coll) : List Bytes := cs.map (fun c => c.name)

/-- whatever does not look at file locations is the same after a Flush -/
theorem flush_keeps {α : Type} (f : List Coll → α) (hf : ∀ cs, f (stripLocs cs) = f cs)
    (cs : List Coll) (s : FileSt) : f (flushStoreW cs s).1.1 = f cs := by
  rw [← hf, flushStoreW_fst, flushStore_strip, hf]

theorem names_strip (cs : List Coll) : names (stripLocs cs) = names cs := by
  simp only [names, stripLocs, List.map_map, Function.comp_def, strip_name]

theorem flush_sorted (cs : List Coll) (s : FileSt) (h : SortedNames cs) :
    SortedNames (flushStoreW cs s).1.1 :=
  flushStoreW_fst cs s ▸ Machine.SameShape.sorted (flushStore_eraseLocs cs s) h

theorem totLen_strip (cs : List Coll) : totLen (stripLocs cs) = totLen cs := by
  simp only [totLen, stripLocs, List.map_map, Function.comp_def, Coll.strip, toList_eraseLocs]

theorem cur_toList_strip (name : Bytes) (cmp : CmpKind) (cs : List Coll) :
    (copyCur name cmp (stripLocs cs)).root.toList = (copyCur name cmp cs).root.toList := by
  rw [copyCur_strip]; exact toList_eraseLocs _

theorem copyItemsW_cons (fe : Nat) (name : Bytes) (cmp : CmpKind) (i : Item) (rest : List Item)
    (n : Nat) (cs : List Coll) (s : FileSt) :
    copyItemsW fe name cmp (i :: rest) n cs s =
      if fe > 0 ∧ (n + 1) % fe = 0 then
        ((copyItemsW fe name cmp rest (n + 1) (flushStoreW (copyStep name cmp cs i) s).1.1
            (flushStoreW (copyStep name cmp cs i) s).1.2).1,
          (flushStoreW (copyStep name cmp cs i) s).2.add
            (copyItemsW fe name cmp rest (n + 1) (flushStoreW (copyStep name cmp cs i) s).1.1
              (flushStoreW (copyStep name cmp cs i) s).1.2).2)
      else copyItemsW fe name cmp rest (n + 1) (copyStep name cmp cs i) s := rfl

theorem cur_step (name : Bytes) (cmp : CmpKind) (cs : List Coll) (i : Item) :
    (copyCur name cmp (copyStep name cmp cs i)).root = Tree.setItem cmp.fn (copyCur name cmp cs).root i :=
  congrArg Coll.root (copyCur_collsSet cmp cs
    { copyCur name cmp cs with root := Tree.setItem cmp.fn (copyCur name cmp cs).root i } (cur_name name cmp cs))

/-- the destination while it is being filled: no fault, names sorted, located nodes closed -/
structure Good (cs : List Coll) (s : FileSt) : Prop where
  clean : s.Clean
  sorted : SortedNames cs
  closed : ∀ c ∈ cs, Closed c.root

/-- the keys still to come differ from every key already in the current collection -/
def Fresh (name : Bytes) (cmp : CmpKind) (is : List Item) (cs : List Coll) : Prop :=
  ∀ j ∈ (copyCur name cmp cs).root.toList, ∀ i ∈ is, cmp.fn j.key i.key ≠ .eq

/-- the destination while it is being filled, with the item records `acc` written so far: they
    lie at ascending places below `size`, and they are, one for one, the located pairs held -/
structure Ledger (cs : List Coll) (s : FileSt) (acc : List ItemRec) : Prop where
  good : Good cs s
  asc : Asc 0 acc s.size
  held : (acc.map lift).Perm (located (allLocs cs))

theorem step_good {name : Bytes} {cmp : CmpKind} {cs : List Coll} {s : FileSt} (i : Item)
    (hg : Good cs s) : Good (copyStep name cmp cs i) s := by
  refine ⟨hg.clean, collsSet_sorted _ cs hg.sorted, ?_⟩
  intro c hc
  rcases mem_collsSet hc with hc | hc
  · subst hc; exact structural_closed.setItem cmp.fn (cur_closed name cmp cs hg.closed) trivial
  · exact hg.closed c hc

theorem allLocs_step_fresh {name : Bytes} {cmp : CmpKind} {cs : List Coll} {i : Item}
    (hs : SortedNames cs) (hf : Fresh name cmp [i] cs) :
    (allLocs (copyStep name cmp cs i)).Perm ((i, none) :: allLocs cs) := by
  have h := (allLocs_step name cmp cs hs _).trans
    ((setItem_itemLocs cmp.fn _ i fun j hj => hf j hj i (List.mem_singleton_self i)).append_left _)
  -- `(i, none)` moves to the front; the pairs of the current collection, last on both sides, cancel
  exact (List.perm_append_right_iff _).mp
    (h.trans (List.perm_iff_count.mpr fun z => by
      simp only [List.count_append, List.count_cons]; omega))

/-- a `SetItem` of a fresh key adds an unlocated pair: the ledger is as it was -/
theorem Ledger.set {name : Bytes} {cmp : CmpKind} {cs : List Coll} {s : FileSt}
    {acc : List ItemRec} {i : Item} (h : Ledger cs s acc) (hf : Fresh name cmp [i] cs) :
    Ledger (copyStep name cmp cs i) s acc :=
  have e : (located (allLocs (copyStep name cmp cs i))).Perm
      (located ((i, none) :: allLocs cs)) := (allLocs_step_fresh h.good.sorted hf).filter _
  ⟨step_good i h.good, h.asc, h.held.trans e.symm⟩

theorem step_fresh {name : Bytes} {cmp : CmpKind} {cs : List Coll} {i : Item} {rest : List Item}
    (hi : ∀ a' ∈ rest, cmp.fn i.key a'.key ≠ .eq) (hf : Fresh name cmp (i :: rest) cs) :
    Fresh name cmp rest (copyStep name cmp cs i) := by
  intro j hj i' hi'
  rw [cur_step] at hj
  rcases setItem_mem _ _ _ _ hj with rfl | hj
  · exact hi i' hi'
  · exact hf j hj i' (List.mem_cons_of_mem _ hi')

/-- a Flush appends what it wrote to the ledger, and afterwards every pair held is located -/
theorem Ledger.flush {cs : List Coll} {s : FileSt} {acc : List ItemRec} (h : Ledger cs s acc) :
    Ledger (flushStoreW cs s).1.1 (flushStoreW cs s).1.2 (acc ++ (flushStoreW cs s).2.items) ∧
    located (allLocs (flushStoreW cs s).1.1) = allLocs (flushStoreW cs s).1.1 := by
  obtain ⟨f1, f2, f3⟩ := flushStoreW_spec cs s h.good.clean h.good.closed
  have hp : ((acc ++ (flushStoreW cs s).2.items).map lift).Perm (allLocs (flushStoreW cs s).1.1) := by
    rw [List.map_append]; exact (h.held.append_right _).trans f3.symm
  have hall : ∀ x ∈ allLocs (flushStoreW cs s).1.1, x.2.isSome := fun x hx => by
    obtain ⟨r, _, rfl⟩ := List.mem_map.mp (hp.mem_iff.mpr hx); rfl
  have hloc : located (allLocs (flushStoreW cs s).1.1) = _ := List.filter_eq_self.mpr hall
  refine ⟨⟨⟨f1, flush_sorted cs s h.good.sorted, fun c hc => ?_⟩,
    Asc.append h.asc f2, by rwa [hloc]⟩, hloc⟩
  exact closed_of_unlocated ((unlocated_zero_iff _).mpr fun x hx =>
    hall x (List.mem_flatMap.mpr ⟨c, hc, hx⟩))

theorem flush_totLen (cs : List Coll) (s : FileSt) : totLen (flushStoreW cs s).1.1 = totLen cs :=
  flush_keeps totLen totLen_strip cs s

theorem flush_fresh {name : Bytes} {cmp : CmpKind} {is : List Item} {cs : List Coll} (s : FileSt)
    (hf : Fresh name cmp is cs) : Fresh name cmp is (flushStoreW cs s).1.1 := by
  unfold Fresh
  rwa [flush_keeps (fun cs => (copyCur name cmp cs).root.toList) (cur_toList_strip name cmp) cs s]

/-- names do not depend on flushing, so they are those of the flush-free copy, which
    `copyItems_zero_fold` gives in closed form -/
theorem copyItems_names (fe : Nat) (name : Bytes) (cmp : CmpKind) (is : List Item) (n : Nat)
    (cs : List Coll) (s : FileSt) :
    ∀ x ∈ names (copyItems fe name cmp is n (collsSet ⟨name, cmp, .nil⟩ cs) s).1,
      x = name ∨ x ∈ names cs := by
  intro x hx
  rw [← names_strip, copyItems_strip (n' := 0) (s' := s), collsSet_strip,
    show Coll.strip ⟨name, cmp, .nil⟩ = ⟨name, cmp, .nil⟩ from rfl, copyItems_zero_fold] at hx
  obtain ⟨c, hc, rfl⟩ := List.mem_map.mp hx
  rcases mem_collsSet hc with rfl | hc
  · exact Or.inl rfl
  · exact Or.inr (names_strip cs ▸ List.mem_map.mpr ⟨c, hc, rfl⟩)

theorem copyItemsW_ledger (fe : Nat) (name : Bytes) (cmp : CmpKind) (is : List Item) (n : Nat)
    (cs : List Coll) (s : FileSt) (acc : List ItemRec) (hl : Ledger cs s acc)
    (hd : is.Pairwise fun a b => cmp.fn a.key b.key ≠ .eq) (hf : Fresh name cmp is cs) :
    Ledger (copyItemsW fe name cmp is n cs s).1.1 (copyItemsW fe name cmp is n cs s).1.2
      (acc ++ (copyItemsW fe name cmp is n cs s).2.items) ∧
    totLen (copyItemsW fe name cmp is n cs s).1.1 = totLen cs + is.length := by
  induction is generalizing n cs s acc with
  | nil => exact ⟨(List.append_nil acc).symm ▸ hl, rfl⟩
  | cons i rest ih =>
    obtain ⟨hi, hd'⟩ := List.pairwise_cons.mp hd
    have hfi : Fresh name cmp [i] cs := fun j hj i' hi' =>
      hf j hj i' (List.cons_subset_cons i (List.nil_subset rest) hi')
    have l1 := hl.set hfi
    have f1 := step_fresh hi hf
    have n1 : totLen (copyStep name cmp cs i) = totLen cs + 1 := by
      rw [← allLocs_length, ← allLocs_length, (allLocs_step_fresh hl.good.sorted hfi).length_eq,
        List.length_cons]
    rw [copyItemsW_cons]
    split
    · -- a periodic flush
      obtain ⟨r1, r2⟩ := ih (n + 1) _ _ _ l1.flush.1 hd' (flush_fresh s f1)
      rw [flush_totLen, n1] at r2
      exact ⟨by simpa only [Wrote.add, List.append_assoc] using r1,
        r2.trans (Nat.add_right_comm _ 1 _)⟩
    · obtain ⟨r1, r2⟩ := ih (n + 1) _ s acc l1 hd' f1
      exact ⟨r1, (n1 ▸ r2).trans (Nat.add_right_comm _ 1 _)⟩

/-- an empty collection under a name the destination does not have yet: nothing held changes, and
    every key is fresh for it -/
theorem Ledger.newColl {cs : List Coll} {s : FileSt} {acc : List ItemRec} (h : Ledger cs s acc)
    (name : Bytes) (cmp : CmpKind) (is : List Item) (hn : name ∉ names cs) :
    Ledger (collsSet ⟨name, cmp, .nil⟩ cs) s acc ∧
    totLen (collsSet ⟨name, cmp, .nil⟩ cs) = totLen cs ∧
    Fresh name cmp is (collsSet ⟨name, cmp, .nil⟩ cs) := by
  have hp := allLocs_collsSet ⟨name, cmp, .nil⟩ cs h.good.sorted
  rw [collsGet_none fun d hd e => hn (List.mem_map.mpr ⟨d, hd, e⟩), Option.elim_none, itemLocs,
    List.append_nil, List.append_nil] at hp
  refine ⟨⟨⟨h.good.clean, collsSet_sorted _ cs h.good.sorted, fun d hd => ?_⟩, h.asc,
    h.held.trans (hp.filter _).symm⟩, ?_, ?_⟩
  · rcases mem_collsSet hd with rfl | hd
    · trivial
    · exact h.good.closed d hd
  · rw [← allLocs_length, ← allLocs_length, hp.length_eq]
  · unfold Fresh
    rw [copyCur_collsSet cmp cs ⟨name, cmp, .nil⟩ rfl]
    intro j hj
    cases hj

/-- the hypotheses: source collections have different names, and within a collection no two items
    have keys that the collection's comparator calls equal -/
def DistinctNames (src : List Coll) : Prop := src.Pairwise (fun a b => a.name ≠ b.name)

def DistinctKeys (src : List Coll) : Prop :=
  ∀ c ∈ src, c.root.toList.Pairwise (fun a b => c.cmp.fn a.key b.key ≠ .eq)

theorem copyCollsW_ledger (fe : Nat) (src cs : List Coll) (s : FileSt) (acc : List ItemRec)
    (hl : Ledger cs s acc) (hn : DistinctNames src) (hnew : ∀ c ∈ src, c.name ∉ names cs)
    (hk : DistinctKeys src) :
    Ledger (copyCollsW fe src cs s).1.1 (copyCollsW fe src cs s).1.2
      (acc ++ (copyCollsW fe src cs s).2.items) ∧
    totLen (copyCollsW fe src cs s).1.1 = totLen cs + totLen src := by
  induction src generalizing cs s acc with
  | nil => exact ⟨by simpa [copyCollsW] using hl, rfl⟩
  | cons c rest ih =>
    obtain ⟨hn1, hn2⟩ := List.pairwise_cons.mp hn
    obtain ⟨l0, n0, f0⟩ := hl.newColl c.name c.cmp c.root.toList (hnew c (List.mem_cons_self ..))
    obtain ⟨l1, n1⟩ := copyItemsW_ledger fe c.name c.cmp c.root.toList 0 _ s acc l0
      (hk c (List.mem_cons_self ..)) f0
    -- the names of the collections still to come are still new
    obtain ⟨l2, n2⟩ := ih _ _ _ l1 hn2 (fun c' hc' hm => by
      rw [copyItemsW_fst] at hm
      rcases copyItems_names _ _ _ _ _ _ _ _ hm with h | h
      · exact hn1 c' hc' h.symm
      · exact hnew c' (List.mem_cons_of_mem _ hc') h)
      fun d hd => hk d (List.mem_cons_of_mem _ hd)
    simp only [copyCollsW]
    refine ⟨by simpa only [Wrote.add, List.append_assoc] using l2, ?_⟩
    rw [n2, n1, n0, Nat.add_assoc]
    rfl

theorem ledger_empty : Ledger [] { bytes := [], size := 0, log := [] } [] :=
  ⟨⟨⟨rfl, rfl⟩, List.Pairwise.nil, fun c hc => by cases hc⟩, Nat.le_refl _, .refl _⟩

/-- For `flushEvery > 0` the item records that a `CopyTo` into an empty file has written are, one
    for one, the (item, location) pairs of the destination store; they lie at ascending places
    below the final `size`; and the destination has as many items as the source. -/
theorem copyToW_ledger (src : List Coll) (fe : Int) (hfe : fe > 0) (hn : DistinctNames src)
    (hk : DistinctKeys src) :
    ((copyToW src fe).2.items.map lift).Perm (allLocs (copyToW src fe).1.1) ∧
    Asc 0 (copyToW src fe).2.items (copyToW src fe).1.2.size ∧
    totLen (copyToW src fe).1.1 = totLen src := by
  obtain ⟨l1, n1⟩ := copyCollsW_ledger fe.toNat src [] _ [] ledger_empty hn
    (fun c _ h => by cases h) hk
  obtain ⟨l2, e2⟩ := l1.flush
  simp only [copyToW, hfe, if_true]
  exact ⟨e2 ▸ l2.held, l2.asc, (flush_totLen _ _).trans (n1.trans (Nat.zero_add _))⟩

/-- **One record per item, one item per record**: the item records written to the destination file
    are, one for one, the (item, location) pairs of the destination store: the record of an item
    goes out at the first flush after its `SetItem` and never again, whatever `flushEvery` is
    (later `SetItem`s of other keys keep its location, `setItem_itemLocs`; later flushes skip
    it, `writeItemsW_spec`). -/
theorem copyTo_item_records_perm (src : List Coll) (fe : Int) (hfe : fe > 0)
    (hn : DistinctNames src) (hk : DistinctKeys src) :
    ((copyToW src fe).2.items.map (fun r => (r.1, some r.2))).Perm (allLocs (copyTo src fe).1) :=
  copyToW_fst src fe ▸ (copyToW_ledger src fe hfe hn hk).1

/-- **Every item record written is live**: it is the record of an item of the destination, and the
    records are at increasing, non-overlapping places below the final `size`. -/
theorem copyTo_item_records_live (src : List Coll) (fe : Int) (hfe : fe > 0)
    (hn : DistinctNames src) (hk : DistinctKeys src) :
    (∀ r ∈ (copyToW src fe).2.items,
      ∃ c ∈ (copyTo src fe).1, (r.1, some r.2) ∈ itemLocs c.root) ∧
    Asc 0 (copyToW src fe).2.items (copyTo src fe).2.size := by
  refine ⟨fun r hr => ?_, copyToW_fst src fe ▸ (copyToW_ledger src fe hfe hn hk).2.1⟩
  obtain ⟨c, hc, hm⟩ := List.mem_flatMap.mp
    ((copyTo_item_records_perm src fe hfe hn hk).mem_iff.mp (List.mem_map.mpr ⟨r, hr, rfl⟩))
  exact ⟨c, hc, hm⟩

/-- **Every item of the destination has its record on file** (for `flushEvery > 0`). -/
theorem copyTo_all_located (src : List Coll) (fe : Int) (hfe : fe > 0)
    (hn : DistinctNames src) (hk : DistinctKeys src) :
    ∀ c ∈ (copyTo src fe).1, ∀ x ∈ itemLocs c.root, x.2.isSome := by
  intro c hc x hx
  obtain ⟨r, _, rfl⟩ := List.mem_map.mp
    ((copyTo_item_records_perm src fe hfe hn hk).mem_iff.mpr (List.mem_flatMap.mpr ⟨c, hc, hx⟩))
  rfl

/-- **No superseded item versions.**  The number of item records in the destination file equals
    the number of items the destination store holds. -/
theorem copyTo_item_records_eq_dest (src : List Coll) (fe : Int) (hfe : fe > 0)
    (hn : DistinctNames src) (hk : DistinctKeys src) :
    (copyToW src fe).2.items.length =
      ((copyTo src fe).1.map (fun c => c.root.toList.length)).sum := by
  rw [← List.length_map, (copyTo_item_records_perm src fe hfe hn hk).length_eq, allLocs_length]

/-- **Each source item's record is written exactly once.**  A fault-free `CopyTo` with
    `flushEvery > 0` into an empty file writes as many item records as the source has items. -/
theorem copyTo_item_records_eq_source (src : List Coll) (fe : Int) (hfe : fe > 0)
    (hn : DistinctNames src) (hk : DistinctKeys src) :
    (copyToW src fe).2.items.length = (src.map (fun c => c.root.toList.length)).sum := by
  rw [copyTo_item_records_eq_dest src fe hfe hn hk, ← copyToW_fst]
  exact (copyToW_ledger src fe hfe hn hk).2.2

/-- the hypotheses of `Props.C11.copy_equivalent` give those used here -/
theorem distinct_of_bst (src : List Coll) (hb : ∀ c ∈ src, Tree.BST c.cmp.fn c.root)
    (hnames : src.Pairwise (fun a b => compare a.name b.name = .lt)) :
    DistinctNames src ∧ DistinctKeys src := by
  refine ⟨hnames.imp (fun h => ne_of_compare_lt h), fun c hc => ?_⟩
  refine (Tree.toList_sorted c.cmp.fn (hb c hc)).imp ?_
  intro a b h e
  rw [h] at e
  cases e

/-- the same under the hypotheses of `Props.C11.copy_equivalent` -/
theorem copyTo_item_records_of_bst (src : List Coll) (fe : Int) (hfe : fe > 0)
    (hb : ∀ c ∈ src, Tree.BST c.cmp.fn c.root)
    (hnames : src.Pairwise (fun a b => compare a.name b.name = .lt)) :
    (copyToW src fe).2.items.length = (src.map (fun c => c.root.toList.length)).sum ∧
    (copyToW src fe).2.items.length =
      ((copyTo src fe).1.map (fun c => c.root.toList.length)).sum :=
  have ⟨hn, hk⟩ := distinct_of_bst src hb hnames
  ⟨copyTo_item_records_eq_source src fe hfe hn hk, copyTo_item_records_eq_dest src fe hfe hn hk⟩

def Disjoint (p q : Ploc) : Prop := p.off + p.len ≤ q.off ∨ q.off + q.len ≤ p.off

/-- **The destination's item records tile without overlap**: every item of every destination
    collection has a record, as long as the item's record is, below the final `size`, and the
    records of two different nodes (in one collection or in two) do not overlap. -/
theorem copyTo_item_ranges (src : List Coll) (fe : Int) (hfe : fe > 0)
    (hn : DistinctNames src) (hk : DistinctKeys src) :
    (∀ x ∈ allLocs (copyTo src fe).1, ∃ p, x.2 = some p ∧ p.len = itemRecLen x.1 ∧
      p.off + p.len ≤ (copyTo src fe).2.size) ∧
    (allLocs (copyTo src fe).1).Pairwise
      (fun x y => ∀ p q, x.2 = some p → y.2 = some q → Disjoint p q) := by
  obtain ⟨_, h2⟩ := copyTo_item_records_live src fe hfe hn hk
  have hp := copyTo_item_records_perm src fe hfe hn hk
  constructor
  · intro x hx
    obtain ⟨r, hr, rfl⟩ := List.mem_map.mp (hp.mem_iff.mpr hx)
    exact ⟨r.2, rfl, (Asc.within h2 r hr).2⟩
  · refine hp.pairwise_iff (fun {x y} h p q hx hy => (h q p hy hx).symm) |>.mp ?_
    rw [List.pairwise_map]
    exact (Asc.pairwise h2).imp fun hab p q hp hq => by cases hp; cases hq; exact Or.inl hab

/-- the two `WriteAt` calls of one item record: header+key, then value -/
def recEvents (r : ItemRec) : List FileEv :=
  [.write r.2.off (encItemHdrKey r.1).length,
   .write (r.2.off + (encItemHdrKey r.1).length) r.1.val.length]

/-- a fault-free `writeItems` issues exactly the two `WriteAt` calls of every record in the list
    the twin returns, in that order, and nothing else -/
theorem writeItemsW_log (t : Tree) (s : FileSt) (h : s.Clean) :
    (writeItems t s).2.log = s.log ++ (writeItemsW t s).2.flatMap recEvents := by
  rw [← writeItemsW_fst]
  induction t generalizing s with
  | nil => simp [writeItemsW]
  | node l i a b r p q ihl ihr =>
    cases p with
    | some p => simp [writeItemsW]
    | none =>
      have h1 := writeItemsW_clean l s h
      cases q with
      | some il =>
        simp only [writeItemsW, List.flatMap_append]
        rw [ihr _ h1, ihl s h, List.append_assoc]
      | none =>
        simp only [writeItemsW]
        rw [if_neg (clean_not_failed h1)]
        have h2 := (itemStep_frame (writeItemsW l s).1.2 i).noplan h1
        rw [itemStep] at h2
        rw [if_neg (clean_not_failed h2)]
        simp only [List.flatMap_append, List.flatMap_cons]
        rw [ihr _ h2, twoWrites_of_clean _ h1, ihl s h]
        simp only [recEvents, List.append_assoc, List.cons_append, List.nil_append]

/-! ### non-vacuity, and the corners where the statement fails -/

def it (k v p : Nat) : Item := ⟨[UInt8.ofNat k], [UInt8.ofNat v], p⟩

def build (cmp : CmpKind) (l : List Item) : Tree := l.foldl (Tree.setItem cmp.fn) .nil

/-- two collections, 4 + 3 items -/
def srcA : List Coll :=
  [⟨[1], .bytes, build .bytes [it 1 1 5, it 2 2 9, it 3 3 1, it 4 4 7]⟩,
   ⟨[2], .rev, build .rev [it 1 1 3, it 5 5 8, it 9 9 2]⟩]

def items (src : List Coll) : Nat := (src.map (fun c => c.root.toList.length)).sum
def nodes (src : List Coll) : Nat := (src.map (fun c => c.root.size)).sum

theorem srcA_ok : DistinctNames srcA ∧ DistinctKeys srcA := by
  unfold DistinctNames DistinctKeys
  decide +kernel

/-- `flushEvery = 2`: 7 items, 7 item records — but 9 node records for 7 nodes (node records ARE
    superseded: a periodic flush persists the nodes on the path to the root, and the next
    `SetItem`s rebuild that path).  The log has 2 `WriteAt` per item record, 1 per node record and
    1 per root record (4 flushes): 27. -/
example : items srcA = 7 ∧ (copyToW srcA 2).2.items.length = 7 ∧
    nodes (copyTo srcA 2).1 = 7 ∧ (copyToW srcA 2).2.nodes = 9 ∧
    (copyTo srcA 2).2.log.length = 2 * 7 + 9 + 4 := by decide +kernel

example : (copyToW srcA 1).2.items.length = 7 ∧ (copyToW srcA 1).2.nodes = 10 ∧
    (copyToW srcA 100).2.items.length = 7 ∧ (copyToW srcA 100).2.nodes = 7 := by decide +kernel

#guard (copyToW srcA 2).2.items.length == items srcA
#guard (copyToW srcA 2).2.nodes > nodes (copyTo srcA 2).1
#guard (copyToW srcA 2).2.items.map (fun r => (r.1.key, r.2.off, r.2.len)) ==
  [([1], 0, 18), ([2], 18, 18), ([3], 210, 18), ([4], 228, 18), ([9], 473, 18), ([5], 491, 18),
   ([1], 710, 18)]

/-- copying an already persisted source (all locations set) changes nothing: the source's
    locations are not carried over (`toList` drops them) -/
example : (copyToW (copyTo srcA 1).1 2).2.items.length = 7 := by decide +kernel

/-- `flushEvery = 0` (or negative): `CopyTo` never flushes; nothing at all reaches the file, so
    `fe > 0` is needed -/
theorem no_flush_no_records : (copyToW srcA 0).2.items.length = 0 ∧ (copyTo srcA 0).2.bytes = [] ∧
    (copyToW srcA (-3)).2.items.length = 0 := by decide +kernel

/-- a "source" that violates search order and holds one key twice (cannot be built through the
    API): with `flushEvery = 1` the first version is written, then replaced, then the second
    version is written — 2 item records for 1 live item, a superseded version in the file;
    with `flushEvery = 2` the first version is replaced before any flush — 1 record, fewer than
    source items.  So `DistinctKeys` is needed, for both equalities. -/
def srcDupKey : List Coll :=
  [⟨[1], .bytes, .node .nil (it 1 1 5) 2 4 (.node .nil (it 1 2 3) 1 2 .nil none none) none none⟩]

theorem dupKey_superseded :
    ¬ DistinctKeys srcDupKey ∧ DistinctNames srcDupKey ∧ items srcDupKey = 2 ∧
    (copyToW srcDupKey 1).2.items.length = 2 ∧ items (copyTo srcDupKey 1).1 = 1 ∧
    (copyToW srcDupKey 2).2.items.length = 1 ∧ items (copyTo srcDupKey 2).1 = 1 := by
  unfold DistinctNames DistinctKeys
  decide +kernel

/-- keys that differ as bytes but not under the collection's comparator (case folding) are the
    same corner -/
def srcFold : List Coll :=
  [⟨[1], .fold, .node .nil (it 65 1 5) 2 4 (.node .nil (it 97 2 3) 1 2 .nil none none) none none⟩]

theorem foldKey_superseded :
    ¬ DistinctKeys srcFold ∧ (copyToW srcFold 1).2.items.length = 2 ∧
      items (copyTo srcFold 1).1 = 1 := by
  unfold DistinctKeys
  decide +kernel

/-- two source collections with one name (not a state of a store: `collsSet` keeps names
    distinct): creating the second destination collection drops the first, whose item record is
    already on file.  So `DistinctNames` is needed. -/
def srcDupName : List Coll :=
  [⟨[1], .bytes, build .bytes [it 1 1 5]⟩, ⟨[1], .bytes, build .bytes [it 2 2 5]⟩]

theorem dupName_superseded :
    ¬ DistinctNames srcDupName ∧ DistinctKeys srcDupName ∧ items srcDupName = 2 ∧
    (copyToW srcDupName 1).2.items.length = 2 ∧ items (copyTo srcDupName 1).1 = 1 ∧
    (copyToW srcDupName 2).2.items.length = 1 := by
  unfold DistinctNames DistinctKeys
  decide +kernel

/-- distinct names in any order and distinct keys in any order are enough (no search order, no
    name order needed) -/
def srcUnsorted : List Coll :=
  [⟨[2], .bytes, .node .nil (it 5 1 5) 2 4 (.node .nil (it 1 2 3) 1 2 .nil none none) none none⟩,
   ⟨[1], .bytes, build .bytes [it 2 2 5]⟩]

example : DistinctNames srcUnsorted ∧ DistinctKeys srcUnsorted ∧
    (copyToW srcUnsorted 1).2.items.length = 3 ∧ items (copyTo srcUnsorted 1).1 = 3 := by
  unfold DistinctNames DistinctKeys
  decide +kernel

end Gkv.CopyCompact

#print axioms Gkv.CopyCompact.copyToW_fst
#print axioms Gkv.CopyCompact.writeItemsW_log
#print axioms Gkv.CopyCompact.copyTo_item_records_eq_source
#print axioms Gkv.CopyCompact.copyTo_item_records_eq_dest
#print axioms Gkv.CopyCompact.copyTo_item_records_of_bst
#print axioms Gkv.CopyCompact.copyTo_all_located
#print axioms Gkv.CopyCompact.copyTo_item_records_live
#print axioms Gkv.CopyCompact.copyTo_item_records_perm
#print axioms Gkv.CopyCompact.copyTo_item_ranges
#print axioms Gkv.CopyCompact.srcA_ok
#print axioms Gkv.CopyCompact.no_flush_no_records
#print axioms Gkv.CopyCompact.dupKey_superseded
#print axioms Gkv.CopyCompact.foldKey_superseded
#print axioms Gkv.CopyCompact.dupName_superseded
