/-
Flush is append-only and changes nothing but file locations — with or without an injected write
fault (properties C01, C07, C09).  Every statement is for an arbitrary `FileSt`, i.e. whatever the
fault plan `failAt`/`torn`/`failed` is.

`Flush` and `CopyTo` move the file through two kinds of steps only, an item record (`itemStep`) and
a record written by one `WriteAt` (`recStep`): `Steps s s'`.  What holds of the file state after
them (`Frame`, which includes the fate of the fault plan, `FileSt.Wf`, and in FlushTiles the tiling of
the log) is proved once, by induction over `Steps`.
-/
import Gkv.Proofs.Bytes
import Gkv.Proofs.EraseLocs
import Gkv.Model.Store

namespace Gkv

/-- every write in the log starts at or beyond `lo` -/
def LogFrom (lo : Nat) (log : List FileEv) : Prop :=
  ∀ e ∈ log, match e with | .write off _ => lo ≤ off | .trunc _ => False

theorem LogFrom.nil (lo : Nat) : LogFrom lo [] := by
  intro e he; cases he

theorem LogFrom.single (lo off len : Nat) (h : lo ≤ off) : LogFrom lo [.write off len] := by
  intro e he
  simp only [List.mem_singleton] at he
  subst he
  exact h

theorem LogFrom.append {lo : Nat} {a b : List FileEv} (ha : LogFrom lo a) (hb : LogFrom lo b) :
    LogFrom lo (a ++ b) := by
  intro e he
  rcases List.mem_append.mp he with h | h
  · exact ha e h
  · exact hb e h

theorem LogFrom.mono {lo lo' : Nat} {a : List FileEv} (h : lo ≤ lo') (ha : LogFrom lo' a) :
    LogFrom lo a := by
  intro e he
  have := ha e he
  cases e with
  | write off len => exact Nat.le_trans h this
  | trunc n => exact this

theorem writeAtOff_failed_id (s : FileSt) (off : Nat) (b : Bytes) (h : s.failed = true) :
    s.writeAtOff off b = s := by
  unfold FileSt.writeAtOff
  rw [if_pos h]

theorem advance_failed_id (s : FileSt) (n : Nat) (h : s.failed = true) : s.advance n = s := by
  unfold FileSt.advance
  rw [if_pos h]

theorem advance_failed (s : FileSt) (n : Nat) : (s.advance n).failed = s.failed := by
  unfold FileSt.advance
  split <;> rfl

theorem writeAtOff_size (s : FileSt) (off : Nat) (b : Bytes) :
    (s.writeAtOff off b).size = s.size := by
  unfold FileSt.writeAtOff
  split
  · rfl
  · split <;> rfl

theorem writeAtOff_ok (s : FileSt) (off : Nat) (b : Bytes)
    (h : (s.writeAtOff off b).failed = false) :
    s.failed = false ∧ (s.writeAtOff off b).bytes = writeAt s.bytes off b := by
  unfold FileSt.writeAtOff at h ⊢
  split at h
  · next hf => rw [hf] at h; cases h
  · next hf =>
    rw [if_neg hf]
    refine ⟨by simpa using hf, ?_⟩
    split at h
    · cases h
    · rfl
    · rfl

theorem advance_ok (s : FileSt) (n : Nat) (h : (s.advance n).failed = false) :
    s.failed = false ∧ (s.advance n).size = s.size + n ∧ (s.advance n).bytes = s.bytes := by
  unfold FileSt.advance at h ⊢
  split at h
  · next hf => rw [hf] at h; cases h
  · next hf =>
    rw [if_neg hf]
    exact ⟨by simpa using hf, rfl, rfl⟩

/-- `p` is the buffer or, for a torn write, the prefix of it that landed -/
theorem writeAtOff_cases (s : FileSt) (off : Nat) (b : Bytes) :
    ((s.writeAtOff off b).bytes = s.bytes ∧ (s.writeAtOff off b).log = s.log) ∨
    ∃ p, (s.writeAtOff off b).bytes = writeAt s.bytes off p ∧
      (s.writeAtOff off b).log = s.log ++ [.write off p.length] := by
  unfold FileSt.writeAtOff
  split
  · exact .inl ⟨rfl, rfl⟩
  · split
    · dsimp only
      split
      · exact .inl ⟨rfl, rfl⟩
      · exact .inr ⟨_, rfl, rfl⟩
    · exact .inr ⟨_, rfl, rfl⟩
    · exact .inr ⟨_, rfl, rfl⟩

/-- no write fault is pending and none has happened -/
def FileSt.Clean (s : FileSt) : Prop := s.failed = false ∧ s.failAt = none

/-- under a plan armed with `k`: a state that has not failed still carries a plan `k' ≤ k`, and an
    armed one (`k' ≥ 1`) if `k` was (`k = 0` never fires).  The plan is only ever counted down, and
    it disappears only by firing. -/
def FileSt.PlanLeft (k : Nat) (x : FileSt) : Prop :=
  x.failed = false → ∃ k', x.failAt = some k' ∧ k' ≤ k ∧ (1 ≤ k → 1 ≤ k')

/-- `s'` is reachable from `s` by appending only; a failed file stays as it is, and the fault plan
    is only counted down -/
structure Frame (s s' : FileSt) : Prop where
  size_mono : s.size ≤ s'.size
  log : ∃ new, s'.log = s.log ++ new ∧ LogFrom s.size new
  pre : ∀ E, E ≤ s.size → E ≤ s.bytes.length → s'.bytes.take E = s.bytes.take E
  len : s.bytes.length ≤ s'.bytes.length
  noplan : s.Clean → s'.Clean
  failed_id : s.failed = true → s' = s
  plan : ∀ k, s.PlanLeft k → s'.PlanLeft k

theorem Frame.refl (s : FileSt) : Frame s s :=
  ⟨Nat.le_refl _, ⟨[], by rw [List.append_nil], LogFrom.nil _⟩, fun _ _ _ => rfl, Nat.le_refl _, id,
    fun _ => rfl, fun _ => id⟩

theorem Frame.unfailed {s s' : FileSt} (h : Frame s s') (hf : s'.failed = false) :
    s.failed = false := by
  cases hs : s.failed with
  | false => rfl
  | true => rw [h.failed_id hs, hs] at hf; cases hf

theorem Frame.trans {a b c : FileSt} (h1 : Frame a b) (h2 : Frame b c) : Frame a c := by
  refine ⟨Nat.le_trans h1.size_mono h2.size_mono, ?_, ?_, Nat.le_trans h1.len h2.len,
    fun h => h2.noplan (h1.noplan h), fun h => ?_, fun k h => h2.plan k (h1.plan k h)⟩
  · obtain ⟨n1, e1, l1⟩ := h1.log
    obtain ⟨n2, e2, l2⟩ := h2.log
    refine ⟨n1 ++ n2, ?_, LogFrom.append l1 (LogFrom.mono h1.size_mono l2)⟩
    rw [e2, e1, List.append_assoc]
  · intro E hE hl
    rw [h2.pre E (Nat.le_trans hE h1.size_mono) (Nat.le_trans hl h1.len), h1.pre E hE hl]
  · have e := h1.failed_id h
    rw [h2.failed_id (e ▸ h), e]

theorem frame_writeAtOff (s : FileSt) (off : Nat) (b : Bytes) (h : s.size ≤ off) :
    Frame s (s.writeAtOff off b) := by
  -- the plan: without one the write goes through; `0` stays, `1` fires, `j+2` is counted down
  have hnp : s.Clean → (s.writeAtOff off b).Clean := by
    obtain ⟨bytes, size, log, failAt, torn, failed⟩ := s
    rintro ⟨⟨⟩, ⟨⟩⟩
    exact ⟨rfl, rfl⟩
  have hpl : ∀ k, s.PlanLeft k → (s.writeAtOff off b).PlanLeft k := by
    intro k hk hf'
    obtain ⟨k', e, hle, h1⟩ := hk (writeAtOff_ok s off b hf').1
    obtain ⟨bytes, size, log, failAt, torn, failed⟩ := s
    cases (writeAtOff_ok _ off b hf').1
    cases e
    rcases k' with _ | _ | j
    · exact ⟨0, rfl, hle, h1⟩
    · cases hf'
    · exact ⟨j + 1, rfl, Nat.le_of_succ_le hle, fun _ => Nat.succ_pos j⟩
  have hsz := Nat.le_of_eq (writeAtOff_size s off b).symm
  -- the file: nothing landed, or `p` did, at `off`
  rcases writeAtOff_cases s off b with ⟨eb, el⟩ | ⟨p, eb, el⟩
  · exact ⟨hsz, ⟨[], el.trans (List.append_nil _).symm, LogFrom.nil _⟩, fun _ _ _ => congrArg _ eb,
      Nat.le_of_eq (congrArg _ eb.symm), hnp, writeAtOff_failed_id s off b, hpl⟩
  · exact ⟨hsz, ⟨_, el, LogFrom.single _ _ _ h⟩,
      fun E hE hl => eb ▸ take_writeAt _ _ _ _ (Nat.le_trans hE h) hl,
      eb ▸ length_writeAt_ge _ _ _, hnp, writeAtOff_failed_id s off b, hpl⟩

theorem frame_advance (s : FileSt) (n : Nat) : Frame s (s.advance n) := by
  unfold FileSt.advance
  split
  · exact Frame.refl s
  · exact ⟨Nat.le_add_right _ _, ⟨[], by rw [List.append_nil], LogFrom.nil _⟩, fun _ _ _ => rfl,
      Nat.le_refl _, id, fun h => absurd h ‹_›, fun _ => id⟩

/-- one item record: header+key, then the value right behind it, then `size` advanced -/
def itemStep (s : FileSt) (i : Item) : FileSt :=
  ((s.write (encItemHdrKey i)).writeAtOff (s.size + (encItemHdrKey i).length) i.val).advance
    (itemRecLen i)

/-- one record written as a single `WriteAt`, then `size` advanced -/
def recStep (s : FileSt) (b : Bytes) (n : Nat) : FileSt := (s.write b).advance n

/-- the node record `writeNodes` emits for a node whose children have been written -/
def nodeRecOf (l' r' : Tree) (a b : Nat) (q : Option Ploc) : Bytes :=
  encNode { item := q, left := l'.slotLoc, right := r'.slotLoc, nn := a, nb := b }

theorem recStep_frame (s : FileSt) (b : Bytes) (n : Nat) : Frame s (recStep s b n) :=
  (frame_writeAtOff s s.size b (Nat.le_refl _)).trans (frame_advance _ n)

theorem itemStep_frame (s : FileSt) (i : Item) : Frame s (itemStep s i) := by
  refine ((frame_writeAtOff s s.size _ (Nat.le_refl _)).trans
    (frame_writeAtOff _ _ i.val ?_)).trans (frame_advance _ _)
  rw [writeAtOff_size]
  exact Nat.le_add_right _ _

theorem itemStep_failed_id (s : FileSt) (i : Item) (h : s.failed = true) : itemStep s i = s :=
  (itemStep_frame s i).failed_id h

theorem recStep_failed_id (s : FileSt) (b : Bytes) (n : Nat) (h : s.failed = true) :
    recStep s b n = s :=
  (recStep_frame s b n).failed_id h

/-! Failure is sticky and every function of `Flush` is the identity on a failed file (`X_failed_id`),
so the tests `if s.failed then … else` by which `Flush` stops early change nothing: each function
equals its straight-line version, which runs to the end and records a location where the step that
wrote the record did not fail.  The equations of `writeItems` … `flushStore` below are stated in that
form, so an induction over them has no cases for the early exits.

The suffix of a node equation says which of the node's two locations are absent (`n`) or present
(`s`), node location first: `writeItems_node_nn` (neither), `writeItems_node_ns` (no node location,
item located), `writeNodes_node_n` (no node location, any item location).  A node that has its
location is skipped by both functions (`rfl`). -/

theorem writeItems_failed_id (t : Tree) (s : FileSt) (h : s.failed = true) :
    writeItems t s = (t, s) := by
  induction t generalizing s with
  | nil => rfl
  | node l i a b r p q ihl ihr =>
    cases p with
    | some p => rfl
    | none =>
      cases q with
      | some il => simp only [writeItems, ihl s h, ihr s h]
      | none => simp only [writeItems, ihl s h, h, if_true]

theorem writeNodes_failed_id (t : Tree) (s : FileSt) (h : s.failed = true) :
    writeNodes t s = (t, s) := by
  induction t generalizing s with
  | nil => rfl
  | node l i a b r p q ihl ihr =>
    cases p with
    | some p => rfl
    | none => simp only [writeNodes, ihl s h, ihr s h, h, if_true]

theorem writeItems_node_nn (l r : Tree) (i : Item) (a b : Nat) (s : FileSt) :
    writeItems (.node l i a b r none none) s =
      (.node (writeItems l s).1 i a b (writeItems r (itemStep (writeItems l s).2 i)).1 none
          (if (itemStep (writeItems l s).2 i).failed then none
           else some ⟨(writeItems l s).2.size, itemRecLen i⟩),
        (writeItems r (itemStep (writeItems l s).2 i)).2) := by
  simp only [writeItems]
  rw [← itemStep]
  split
  · next h => rw [itemStep_failed_id _ i h, writeItems_failed_id r _ h, if_pos h]
  · split
    · next h => rw [writeItems_failed_id r _ h]
    · rfl

theorem writeItems_node_ns (l r : Tree) (i : Item) (a b : Nat) (il : Ploc) (s : FileSt) :
    writeItems (.node l i a b r none (some il)) s =
      (.node (writeItems l s).1 i a b (writeItems r (writeItems l s).2).1 none (some il),
        (writeItems r (writeItems l s).2).2) := by
  simp only [writeItems]

theorem writeNodes_node_n (l r : Tree) (i : Item) (a b : Nat) (q : Option Ploc) (s : FileSt) :
    writeNodes (.node l i a b r none q) s =
      (.node (writeNodes l s).1 i a b (writeNodes r (writeNodes l s).2).1
          (if (recStep (writeNodes r (writeNodes l s).2).2
              (nodeRecOf (writeNodes l s).1 (writeNodes r (writeNodes l s).2).1 a b q) nodeRecLen).failed
            then none else some ⟨(writeNodes r (writeNodes l s).2).2.size, nodeRecLen⟩) q,
        recStep (writeNodes r (writeNodes l s).2).2
          (nodeRecOf (writeNodes l s).1 (writeNodes r (writeNodes l s).2).1 a b q) nodeRecLen) := by
  simp only [writeNodes]
  rw [← nodeRecOf, ← recStep]
  split
  · next h => rw [recStep_failed_id _ _ _ h, if_pos h]
  · split <;> rfl

theorem writeTree_eq (t : Tree) (s : FileSt) :
    writeTree t s = writeNodes (writeItems t s).1 (writeItems t s).2 := by
  simp only [writeTree]
  split
  · next h => rw [writeNodes_failed_id _ _ h]
  · rfl

theorem writeTree_failed_id (t : Tree) (s : FileSt) (h : s.failed = true) :
    writeTree t s = (t, s) := by
  rw [writeTree_eq, writeItems_failed_id t s h, writeNodes_failed_id t s h]

theorem flushColls_failed_id (cs : List Coll) (s : FileSt) (h : s.failed = true) :
    flushColls cs s = (cs, s) := by
  cases cs with
  | nil => rfl
  | cons c rest => simp only [flushColls, writeTree_failed_id _ s h, h, if_true]

theorem flushColls_cons (c : Coll) (rest : List Coll) (s : FileSt) :
    flushColls (c :: rest) s =
      ({ c with root := (writeTree c.root s).1 } :: (flushColls rest (writeTree c.root s).2).1,
        (flushColls rest (writeTree c.root s).2).2) := by
  simp only [flushColls]
  split
  · next h => rw [flushColls_failed_id rest _ h]
  · rfl

theorem flushStore_eq (cs : List Coll) (s : FileSt) :
    flushStore cs s =
      ((flushColls cs s).1,
        recStep (flushColls cs s).2 (encRoot (flushColls cs s).2.size (rootEntries (flushColls cs s).1))
          (encRoot (flushColls cs s).2.size (rootEntries (flushColls cs s).1)).length) := by
  simp only [flushStore]
  rw [← recStep]
  split
  · next h => rw [recStep_failed_id _ _ _ h]
  · rfl

theorem flushStore_failed_id (cs : List Coll) (s : FileSt) (h : s.failed = true) :
    flushStore cs s = (cs, s) := by
  rw [flushStore_eq, flushColls_failed_id cs s h, recStep_failed_id _ _ _ h]

/-- `s'` is reached from `s` by item records and single-write records, each written at `size` -/
inductive Steps : FileSt → FileSt → Prop
  | refl (s : FileSt) : Steps s s
  | item {s s' : FileSt} (i : Item) : Steps s s' → Steps s (itemStep s' i)
  | record {s s' : FileSt} (b : Bytes) {n : Nat} (hn : n = b.length) :
      Steps s s' → Steps s (recStep s' b n)

theorem Steps.trans {a b c : FileSt} (h1 : Steps a b) (h2 : Steps b c) : Steps a c := by
  induction h2 with
  | refl => exact h1
  | item i _ ih => exact ih.item i
  | record b hn _ ih => exact ih.record b hn

theorem writeItems_steps (t : Tree) (s : FileSt) : Steps s (writeItems t s).2 := by
  induction t generalizing s with
  | nil => exact .refl s
  | node l i a b r p q ihl ihr =>
    cases p with
    | some p => exact .refl s
    | none =>
      cases q with
      | some il => rw [writeItems_node_ns]; exact (ihl s).trans (ihr _)
      | none => rw [writeItems_node_nn]; exact ((ihl s).item i).trans (ihr _)

theorem writeNodes_steps (t : Tree) (s : FileSt) : Steps s (writeNodes t s).2 := by
  induction t generalizing s with
  | nil => exact .refl s
  | node l i a b r p q ihl ihr =>
    cases p with
    | some p => exact .refl s
    | none =>
      rw [writeNodes_node_n]
      exact ((ihl s).trans (ihr _)).record _ (encNode_length _).symm

theorem writeTree_steps (t : Tree) (s : FileSt) : Steps s (writeTree t s).2 := by
  rw [writeTree_eq]
  exact (writeItems_steps t s).trans (writeNodes_steps _ _)

theorem flushColls_steps (cs : List Coll) (s : FileSt) : Steps s (flushColls cs s).2 := by
  induction cs generalizing s with
  | nil => exact .refl s
  | cons c rest ih => rw [flushColls_cons]; exact (writeTree_steps _ _).trans (ih _)

theorem flushStore_steps (cs : List Coll) (s : FileSt) : Steps s (flushStore cs s).2 := by
  rw [flushStore_eq]
  exact (flushColls_steps cs s).record _ rfl

theorem copyItems_steps (fe : Nat) (name : Bytes) (cmp : CmpKind) (is : List Item) (n : Nat)
    (cs : List Coll) (s : FileSt) : Steps s (copyItems fe name cmp is n cs s).2 := by
  induction is generalizing n cs s with
  | nil => exact .refl s
  | cons i rest ih =>
    simp only [copyItems]
    split
    · exact (flushStore_steps _ s).trans (ih _ _ _)
    · exact ih _ _ _

theorem copyColls_steps (fe : Nat) (src cs : List Coll) (s : FileSt) :
    Steps s (copyColls fe src cs s).2 := by
  induction src generalizing cs s with
  | nil => exact .refl s
  | cons c rest ih =>
    simp only [copyColls]
    exact (copyItems_steps _ _ _ _ _ _ s).trans (ih _ _)

/-- the empty destination file `CopyTo` starts from -/
def emptyFile : FileSt := { bytes := [], size := 0, log := [] }

theorem copyTo_steps (src : List Coll) (fe : Int) : Steps emptyFile (copyTo src fe).2 := by
  simp only [copyTo]
  split
  · exact (copyColls_steps _ src [] _).trans (flushStore_steps _ _)
  · exact copyColls_steps _ src [] _

theorem Steps.frame {s s' : FileSt} (h : Steps s s') : Frame s s' := by
  induction h with
  | refl => exact Frame.refl _
  | item i _ ih => exact ih.trans (itemStep_frame _ i)
  | record b _ _ ih => exact ih.trans (recStep_frame _ b _)

/-- the store's `size` never points beyond the end of the file -/
def FileSt.Wf (s : FileSt) : Prop := s.size ≤ s.bytes.length

theorem wf_advance (s : FileSt) (n : Nat) (h : s.Wf)
    (hn : s.failed = false → s.size + n ≤ s.bytes.length) : (s.advance n).Wf := by
  unfold FileSt.advance
  split
  · exact h
  · next hf => exact hn (Bool.eq_false_iff.mpr hf)

theorem wf_writeAtOff (s : FileSt) (off : Nat) (b : Bytes) (h : s.Wf) (ho : s.size ≤ off) :
    (s.writeAtOff off b).Wf :=
  Nat.le_trans (Nat.le_of_eq (writeAtOff_size s off b)) (Nat.le_trans h (frame_writeAtOff s off b ho).len)

/-- a record step keeps `size` inside the file: where the write failed `size` stays, where it did
    not the record lies behind it -/
theorem recStep_wf (s : FileSt) (b : Bytes) (n : Nat) (hs : s.Wf) (hn : n ≤ b.length) :
    (recStep s b n).Wf := by
  refine wf_advance _ n (wf_writeAtOff s _ b hs (Nat.le_refl _)) fun hf => ?_
  rw [FileSt.write, (writeAtOff_ok s s.size b hf).2, writeAtOff_size, length_writeAt _ _ _ hs]
  exact Nat.le_trans (Nat.add_le_add_left hn _) (Nat.le_max_right _ _)

theorem itemStep_wf (s : FileSt) (i : Item) (hs : s.Wf) : (itemStep s i).Wf := by
  have h1 := wf_writeAtOff s _ (encItemHdrKey i) hs (Nat.le_refl _)
  refine wf_advance _ _ (wf_writeAtOff _ _ i.val h1 ?_) fun hf => ?_
  · exact Nat.le_trans (Nat.le_of_eq (writeAtOff_size _ _ _)) (Nat.le_add_right _ _)
  · obtain ⟨hf1, e2⟩ := writeAtOff_ok _ _ i.val hf
    rw [e2, FileSt.write, (writeAtOff_ok s s.size _ hf1).2, writeAtOff_size, writeAtOff_size,
      writeAt_append _ _ _ _ hs, length_writeAt _ _ _ hs, ← encItem, encItem_length]
    exact Nat.le_max_right _ _

theorem Steps.wf {s s' : FileSt} (h : Steps s s') (hs : s.Wf) : s'.Wf := by
  induction h with
  | refl => exact hs
  | item i _ ih => exact itemStep_wf _ i ih
  | record b hn _ ih => exact recStep_wf _ b _ ih (Nat.le_of_eq hn)

theorem recStep_ok (s : FileSt) (b : Bytes) (n : Nat) (h : (recStep s b n).failed = false) :
    s.failed = false ∧ (recStep s b n).bytes = writeAt s.bytes s.size b ∧
      (recStep s b n).size = s.size + n := by
  obtain ⟨h1, z, e⟩ := advance_ok _ n h
  obtain ⟨h0, e1⟩ := writeAtOff_ok s s.size b h1
  exact ⟨h0, e.trans e1, z.trans (congrArg (· + n) (writeAtOff_size s s.size b))⟩

theorem itemStep_ok (s : FileSt) (i : Item) (hs : s.Wf) (h : (itemStep s i).failed = false) :
    s.failed = false ∧ (itemStep s i).bytes = writeAt s.bytes s.size (encItem i) ∧
      (itemStep s i).size = s.size + itemRecLen i := by
  obtain ⟨h2, z, e⟩ := advance_ok _ _ h
  obtain ⟨h1, e2⟩ := writeAtOff_ok _ _ i.val h2
  obtain ⟨h0, e1⟩ := writeAtOff_ok s s.size _ h1
  refine ⟨h0, ?_, z.trans (congrArg (· + itemRecLen i) ?_)⟩
  · exact (e.trans e2).trans ((congrArg (writeAt · _ _) e1).trans (writeAt_append _ _ _ _ hs))
  · exact (writeAtOff_size _ _ _).trans (writeAtOff_size s s.size _)

theorem Steps.unfailed {s s' : FileSt} (h : Steps s s') (hf : s'.failed = false) :
    s.failed = false := h.frame.unfailed hf

theorem writeItems_eraseLocs (t : Tree) (s : FileSt) : (writeItems t s).1.eraseLocs = t.eraseLocs := by
  induction t generalizing s with
  | nil => rfl
  | node l i a b r p q ihl ihr =>
    cases p with
    | some p => rfl
    | none =>
      cases q with
      | some il => rw [writeItems_node_ns]; simp only [Tree.eraseLocs, ihl, ihr]
      | none => rw [writeItems_node_nn]; simp only [Tree.eraseLocs, ihl, ihr]

theorem writeNodes_eraseLocs (t : Tree) (s : FileSt) : (writeNodes t s).1.eraseLocs = t.eraseLocs := by
  induction t generalizing s with
  | nil => rfl
  | node l i a b r p q ihl ihr =>
    cases p with
    | some p => rfl
    | none => rw [writeNodes_node_n]; simp only [Tree.eraseLocs, ihl, ihr]

theorem writeTree_eraseLocs (t : Tree) (s : FileSt) : (writeTree t s).1.eraseLocs = t.eraseLocs := by
  rw [writeTree_eq, writeNodes_eraseLocs, writeItems_eraseLocs]

theorem flushColls_eraseLocs (cs : List Coll) (s : FileSt) :
    (flushColls cs s).1.map (fun c => (c.name, c.cmp, c.root.eraseLocs))
      = cs.map (fun c => (c.name, c.cmp, c.root.eraseLocs)) := by
  induction cs generalizing s with
  | nil => rfl
  | cons c rest ih =>
    rw [flushColls_cons]
    simp only [List.map_cons, writeTree_eraseLocs, ih]

theorem flushStore_eraseLocs (cs : List Coll) (s : FileSt) :
    (flushStore cs s).1.map (fun c => (c.name, c.cmp, c.root.eraseLocs))
      = cs.map (fun c => (c.name, c.cmp, c.root.eraseLocs)) := by
  rw [flushStore_eq]
  exact flushColls_eraseLocs cs s

end Gkv

namespace Gkv.Machine
open Gkv

/-! `SameShape` is the equation that `flushColls_eraseLocs` / `flushStore_eraseLocs` above prove,
under a name, and `SortedNames` is what it carries over.  They are vocabulary of the store machine
(`CollsOK`, hence the namespace) but stand here: `CrashOpen`, which `CollsOK` imports, already uses
them, and `Colls` knows no `eraseLocs`. -/

/-- strictly sorted by name -/
def SortedNames (cs : List Coll) : Prop := cs.Pairwise (fun a b => compare a.name b.name = .lt)

/-- two collection lists that differ in file locations only -/
def SameShape (cs' cs : List Coll) : Prop :=
  cs'.map (fun c => (c.name, c.cmp, c.root.eraseLocs)) =
    cs.map (fun c => (c.name, c.cmp, c.root.eraseLocs))

theorem SameShape.mem {cs' cs : List Coll} (h : SameShape cs' cs) :
    ∀ c' ∈ cs', ∃ c ∈ cs, c.name = c'.name ∧ c.cmp = c'.cmp ∧
      c'.root.eraseLocs = c.root.eraseLocs := by
  intro c' hc'
  have : (c'.name, c'.cmp, c'.root.eraseLocs) ∈
      cs'.map (fun c => (c.name, c.cmp, c.root.eraseLocs)) := List.mem_map.mpr ⟨c', hc', rfl⟩
  rw [h] at this
  obtain ⟨c, hc, he⟩ := List.mem_map.mp this
  injection he with e1 he
  injection he with e2 e3
  exact ⟨c, hc, e1, e2, e3.symm⟩

theorem SameShape.names {cs' cs : List Coll} (h : SameShape cs' cs) :
    cs'.map (·.name) = cs.map (·.name) := by
  have := congrArg (List.map (fun x : Bytes × CmpKind × Tree => x.1)) h
  simpa only [List.map_map, Function.comp_def] using this

theorem SameShape.sorted {cs' cs : List Coll} (h : SameShape cs' cs) (hs : SortedNames cs) :
    SortedNames cs' := by
  have h1 : (cs.map (·.name)).Pairwise (fun a b => compare a b = .lt) :=
    List.pairwise_map.mpr hs
  rw [← h.names] at h1
  exact List.pairwise_map.mp h1

end Gkv.Machine

namespace Gkv

/-! What `Frame` and `FileSt.Wf` say, spelled out for each function of `Flush`: every statement below
is a field of `(X_steps _ _).frame`, or `(X_steps _ _).wf`. -/

theorem writeItems_size_mono (t : Tree) (s : FileSt) : s.size ≤ (writeItems t s).2.size :=
  (writeItems_steps t s).frame.size_mono
theorem writeItems_log (t : Tree) (s : FileSt) :
    ∃ new, (writeItems t s).2.log = s.log ++ new ∧ LogFrom s.size new :=
  (writeItems_steps t s).frame.log
theorem writeItems_prefix (t : Tree) (s : FileSt) (hsz : s.size ≤ s.bytes.length) :
    (writeItems t s).2.bytes.take s.size = s.bytes.take s.size :=
  (writeItems_steps t s).frame.pre s.size (Nat.le_refl _) hsz
theorem writeItems_size_le (t : Tree) (s : FileSt) (hsz : s.size ≤ s.bytes.length) :
    (writeItems t s).2.size ≤ (writeItems t s).2.bytes.length :=
  (writeItems_steps t s).wf hsz
theorem writeItems_no_plan (t : Tree) (s : FileSt) (h1 : s.failed = false) (h2 : s.failAt = none) :
    (writeItems t s).2.failed = false ∧ (writeItems t s).2.failAt = none :=
  (writeItems_steps t s).frame.noplan ⟨h1, h2⟩

theorem writeNodes_size_mono (t : Tree) (s : FileSt) : s.size ≤ (writeNodes t s).2.size :=
  (writeNodes_steps t s).frame.size_mono
theorem writeNodes_log (t : Tree) (s : FileSt) :
    ∃ new, (writeNodes t s).2.log = s.log ++ new ∧ LogFrom s.size new :=
  (writeNodes_steps t s).frame.log
theorem writeNodes_prefix (t : Tree) (s : FileSt) (hsz : s.size ≤ s.bytes.length) :
    (writeNodes t s).2.bytes.take s.size = s.bytes.take s.size :=
  (writeNodes_steps t s).frame.pre s.size (Nat.le_refl _) hsz
theorem writeNodes_size_le (t : Tree) (s : FileSt) (hsz : s.size ≤ s.bytes.length) :
    (writeNodes t s).2.size ≤ (writeNodes t s).2.bytes.length :=
  (writeNodes_steps t s).wf hsz
theorem writeNodes_no_plan (t : Tree) (s : FileSt) (h1 : s.failed = false) (h2 : s.failAt = none) :
    (writeNodes t s).2.failed = false ∧ (writeNodes t s).2.failAt = none :=
  (writeNodes_steps t s).frame.noplan ⟨h1, h2⟩

theorem writeTree_size_mono (t : Tree) (s : FileSt) : s.size ≤ (writeTree t s).2.size :=
  (writeTree_steps t s).frame.size_mono
theorem writeTree_log (t : Tree) (s : FileSt) :
    ∃ new, (writeTree t s).2.log = s.log ++ new ∧ LogFrom s.size new :=
  (writeTree_steps t s).frame.log
theorem writeTree_prefix (t : Tree) (s : FileSt) (hsz : s.size ≤ s.bytes.length) :
    (writeTree t s).2.bytes.take s.size = s.bytes.take s.size :=
  (writeTree_steps t s).frame.pre s.size (Nat.le_refl _) hsz
theorem writeTree_size_le (t : Tree) (s : FileSt) (hsz : s.size ≤ s.bytes.length) :
    (writeTree t s).2.size ≤ (writeTree t s).2.bytes.length :=
  (writeTree_steps t s).wf hsz
theorem writeTree_no_plan (t : Tree) (s : FileSt) (h1 : s.failed = false) (h2 : s.failAt = none) :
    (writeTree t s).2.failed = false ∧ (writeTree t s).2.failAt = none :=
  (writeTree_steps t s).frame.noplan ⟨h1, h2⟩

theorem flushColls_size_mono (cs : List Coll) (s : FileSt) : s.size ≤ (flushColls cs s).2.size :=
  (flushColls_steps cs s).frame.size_mono
theorem flushColls_log (cs : List Coll) (s : FileSt) :
    ∃ new, (flushColls cs s).2.log = s.log ++ new ∧ LogFrom s.size new :=
  (flushColls_steps cs s).frame.log
theorem flushColls_prefix (cs : List Coll) (s : FileSt) (hsz : s.size ≤ s.bytes.length) :
    (flushColls cs s).2.bytes.take s.size = s.bytes.take s.size :=
  (flushColls_steps cs s).frame.pre s.size (Nat.le_refl _) hsz
theorem flushColls_size_le (cs : List Coll) (s : FileSt) (hsz : s.size ≤ s.bytes.length) :
    (flushColls cs s).2.size ≤ (flushColls cs s).2.bytes.length :=
  (flushColls_steps cs s).wf hsz
theorem flushColls_no_plan (cs : List Coll) (s : FileSt) (h1 : s.failed = false) (h2 : s.failAt = none) :
    (flushColls cs s).2.failed = false ∧ (flushColls cs s).2.failAt = none :=
  (flushColls_steps cs s).frame.noplan ⟨h1, h2⟩

theorem flushStore_size_mono (cs : List Coll) (s : FileSt) : s.size ≤ (flushStore cs s).2.size :=
  (flushStore_steps cs s).frame.size_mono
theorem flushStore_log (cs : List Coll) (s : FileSt) :
    ∃ new, (flushStore cs s).2.log = s.log ++ new ∧ LogFrom s.size new :=
  (flushStore_steps cs s).frame.log
theorem flushStore_prefix (cs : List Coll) (s : FileSt) (hsz : s.size ≤ s.bytes.length) :
    (flushStore cs s).2.bytes.take s.size = s.bytes.take s.size :=
  (flushStore_steps cs s).frame.pre s.size (Nat.le_refl _) hsz
theorem flushStore_size_le (cs : List Coll) (s : FileSt) (hsz : s.size ≤ s.bytes.length) :
    (flushStore cs s).2.size ≤ (flushStore cs s).2.bytes.length :=
  (flushStore_steps cs s).wf hsz
theorem flushStore_no_plan (cs : List Coll) (s : FileSt) (h1 : s.failed = false)
    (h2 : s.failAt = none) :
    (flushStore cs s).2.failed = false ∧ (flushStore cs s).2.failAt = none :=
  (flushStore_steps cs s).frame.noplan ⟨h1, h2⟩

theorem copyTo_log (src : List Coll) (fe : Int) : LogFrom 0 (copyTo src fe).2.log := by
  obtain ⟨new, e, l⟩ := (copyTo_steps src fe).frame.log
  rw [e]
  exact l

theorem copyTo_size_le (src : List Coll) (fe : Int) :
    (copyTo src fe).2.size ≤ (copyTo src fe).2.bytes.length :=
  (copyTo_steps src fe).wf (Nat.le_refl _)

theorem copyTo_no_fail (src : List Coll) (fe : Int) :
    (copyTo src fe).2.failed = false ∧ (copyTo src fe).2.failAt = none :=
  (copyTo_steps src fe).frame.noplan ⟨rfl, rfl⟩

end Gkv
