/-
The iterator handshake of collection.go (`Gkv/Model/Iter.lean`: two goroutines, two unbuffered
channels, explicit small steps) for ALL `items`, ALL consumer programs (any sequence of `Next()` and
`Close()` calls) and ALL states reachable by ANY sequence of steps, i.e. every scheduling.

One invariant, `Inv`, whose heart is the table `Coupled` of the producer states that go with a
consumer state.  The safety results (no panic, the pin, what a closed iterator does, the outputs against
the sequential `spec`) are projections of `reach_inv`; no deadlock is the analysis
`Inv.done_of_stuck` of the places where the goroutines block; with `terminates` (every step of
any state decreases `μ`) every maximal execution ends in a `Done` state.

Not modelled: a failing visit (`it.err`), see the header of the model.
-/
import Gkv.Model.Iter

namespace Gkv.Iter

/-- the states reachable from `init items prog` by any interleaving -/
inductive Reach (items : List Nat) (prog : List Cmd) : State → Prop where
  | init : Reach items prog (init items prog)
  | step {s s' : State} : Reach items prog s → Step s s' → Reach items prog s'

/-- `it.items` is closed exactly when the producer is past `close(it.items)` -/
def PPc.afterCloseItems : PPc → Bool
  | .pDrain | .pExited => true
  | _ => false

/-- the version pin is held exactly in these producer states -/
def PPc.inVisit : PPc → Bool
  | .pVisit | .pSend | .pWaitNext | .pUnpin => true
  | _ => false

/-- the consumer has closed `it.next` but not yet set `it.closed` -/
def CPc.afterCloseNext : CPc → Bool
  | .nSetClosed | .cSetClosed => true
  | _ => false

/-- the item the consumer has received but not yet reported -/
def CPc.inflight : CPc → List Nat
  | .nRet i => [i]
  | _ => []

/-- Whose move it is while `it.next` is open: the consumer's, or the producer's while the consumer
stands in `<-it.items`; `eof` when that receive has found the channel closed. -/
inductive Turn
  | consumer
  | producer
  | eof

def CPc.turn : CPc → Turn
  | .nRecv => .producer
  | .nClose => .eof
  | _ => .consumer

/-- Which producer states go with the consumer's `turn` `k` (`nc`: `it.next` is closed), one row per
phase of the producer.  The rendezvous couples the two goroutines tightly: blocked in `<-it.next` the
producer leaves the move to the consumer; it is inside the visit only while the consumer is blocked
in `<-it.items`; past the visit with `it.next` still open it is still the one to move, until the
consumer has seen `it.items` closed; and it exits only once `it.next` is closed.  Two facts about
`todo` sit in rows: in `pSend` there is an item to send, and a visit left with `it.next` open was
left because nothing remained. -/
def Coupled (k : Turn) (nc : Bool) (t : List Nat) : PPc → Prop
  | .pWaitFirst | .pWaitNext => k = .consumer
  | .pPin | .pVisit => k = .producer
  | .pSend => k = .producer ∧ t ≠ []
  | .pUnpin | .pCloseItems | .pDrain => nc = false → k ≠ .consumer ∧ t = []
  | .pExited => nc = true

/-- the results the consumer will still report from state `s` on -/
def future (s : State) : List Out :=
  match s.cpc with
  | .idle => if s.closedFlag then specClosed s.prog else spec s.todo s.prog
  | .nSend | .nRecv => spec s.todo (.next :: s.prog)
  | .nRet i => .nextTrue i :: spec s.todo s.prog
  | .nClose | .nSetClosed => .nextFalse :: specClosed s.prog
  | .cClose | .cSetClosed => .closed :: specClosed s.prog

structure Inv (items : List Nat) (p0 : List Cmd) (s : State) : Prop where
  noPanic : s.panicked = false
  itemsCl : s.itemsClosed = s.ppc.afterCloseItems
  pin : s.pinned = s.ppc.inVisit
  nextCl : s.nextClosed = (s.closedFlag || s.cpc.afterCloseNext)
  closedIdle : s.closedFlag = true → s.cpc = .idle
  coupled : Coupled s.cpc.turn s.nextClosed s.todo s.ppc
  acct : reported s.outs ++ s.cpc.inflight ++ s.todo = items
  specOk : spec items p0 = s.outs ++ future s

theorem reported_append (a b : List Out) : reported (a ++ b) = reported a ++ reported b := by
  induction a with
  | nil => rfl
  | cons x a ih => cases x <;> simp [reported, ih]

theorem inv_init (items : List Nat) (prog : List Cmd) : Inv items prog (init items prog) :=
  ⟨rfl, rfl, rfl, rfl, nofun, rfl, rfl, rfl⟩

theorem step_cases {s s' : State} (st : Step s s') :
    s.panicked = false ∧ (s' ∈ consumerSteps s ∨ s' ∈ jointSteps s ∨ s' ∈ producerSteps s) := by
  unfold Step enabled at st
  cases hp : s.panicked
  · simpa [hp, or_assoc] using st
  · simp [hp] at st

/-- closing `it.next` when the producer is not inside the visit -/
theorem Coupled.close {k : Turn} {t : List Nat} {p : PPc} (h : Coupled k false t p)
    (hk : k ≠ .producer) : Coupled .consumer true t p := by
  cases p
  case pWaitFirst | pWaitNext | pExited => rfl
  case pPin | pVisit => exact (hk h).elim
  case pSend => exact (hk h.1).elim
  case pUnpin | pCloseItems | pDrain => nofun

/-- the consumer finds `it.items` closed -/
theorem Coupled.eof {nc : Bool} {t : List Nat} {p : PPc} (h : Coupled .producer nc t p)
    (hp : p.afterCloseItems = true) : Coupled .eof nc t p ∧ (nc = false → t = []) := by
  cases p <;> cases hp
  · exact ⟨fun ho => ⟨nofun, (h ho).2⟩, fun ho => (h ho).2⟩
  · exact ⟨h, fun ho => nomatch h.symm.trans ho⟩

/-- while `it.next` is open and the consumer does not stand in `<-it.items`, the producer waits for
a token -/
theorem Coupled.waits {t : List Nat} {p : PPc} (h : Coupled .consumer false t p) :
    p.waiting = true := by
  cases p
  case pWaitFirst | pWaitNext => rfl
  case pPin | pVisit | pExited => cases h
  case pSend => cases h.1
  case pUnpin | pCloseItems | pDrain => exact ((h rfl).1 rfl).elim

/-- The invariant is preserved by every step of every goroutine.  Each goroutine is taken by
itself, with the pc of the other one left a variable: a consumer step leaves the producer's pc,
its flags and `todo` alone, a producer step the consumer's, so those clauses are the old
hypotheses.  What the other goroutine is doing enters only through `Coupled`, which sees the
consumer's pc through `turn` and the producer's through its row: a move that keeps the turn, or the
row, keeps the hypothesis; the consumer changes the turn in `Coupled.eof` and `Coupled.close`. -/
theorem inv_step {items : List Nat} {p0 : List Cmd} {s s' : State}
    (h : Inv items p0 s) (st : Step s s') : Inv items p0 s' := by
  obtain ⟨-, st | st | st⟩ := step_cases st
  all_goals
    obtain ⟨cpc, prog, ppc, todo, nc, ic, cf, pin, pan, outs⟩ := s
    -- `h` itself is kept: after the `subst`s it speaks of the state in which the flags are what the
    -- pcs make them, and `{ h with … }` below names exactly the clauses a move touches
    have ⟨hpan, hic, hpin, hnc, hidle, hcpl, hacct, hspec⟩ := h
    simp only at hpan hic hpin hnc hidle hcpl hacct hspec
    subst hpan hic hpin
  · subst hnc
    cases cf
    · -- `it.closed` is not set; `it.next` is closed just when the consumer has closed it, so the
      -- panicking branches are not there
      cases cpc <;> simp [consumerSteps, CPc.afterCloseNext] at st
      case idle =>
        -- enters `Next` (nSend) or `Close` (cClose)
        split at st <;> simp at st <;> subst st
        · exact { h with closedIdle := nofun }
        · exact { h with closedIdle := nofun, specOk := by simpa [future, spec] using hspec }
      case nRecv =>
        -- `it.items` is closed: the visit is over, and with `it.next` open nothing is left
        obtain ⟨hic, rfl⟩ := st
        obtain ⟨hc, ht⟩ := hcpl.eof hic
        exact { h with
          closedIdle := nofun
          coupled := hc
          specOk := by simpa [future, spec, ht rfl] using hspec }
      case nRet i =>
        -- `Next` returns item `i`
        subst st
        exact { h with
          closedIdle := nofun
          acct := by simpa [reported_append, reported, CPc.inflight] using hacct
          specOk := by rw [List.append_assoc]; exact hspec }
      case nClose | cClose =>
        -- `close(it.next)`: the producer is not inside the visit
        subst st
        exact { h with nextCl := rfl, closedIdle := nofun, coupled := hcpl.close nofun }
      case nSetClosed | cSetClosed =>
        -- `it.closed = true`, and the call returns
        subst st
        exact { h with
          closedIdle := fun _ => rfl
          acct := by simpa [reported_append, reported, CPc.inflight] using hacct
          specOk := by rw [List.append_assoc]; exact hspec }
    · -- `it.closed` is set: the consumer is between two commands and pops the next one
      obtain rfl := hidle rfl
      simp only [consumerSteps] at st
      split at st <;> simp at st <;> subst st <;>
        exact { h with
          acct := by simpa [reported_append, reported, CPc.inflight] using hacct
          specOk := by rw [List.append_assoc]; exact hspec }
  · subst hnc
    cases cf
    · simp only [jointSteps] at st
      split at st <;> simp [CPc.afterCloseNext, PPc.afterCloseItems] at st
      -- `split` names the arms of `jointSteps` in their order: `h_1` nSend/pWaitFirst, `h_2` nSend/pWaitNext,
      -- `h_3` nSend/pDrain, `h_4` nRecv/pSend; the catch-all arm has no step and `simp` closes it
      case h_1 | h_2 =>
        -- the token goes from nSend to pWaitFirst or pWaitNext
        subst st
        exact { h with closedIdle := nofun, coupled := rfl }
      case h_3 =>
        -- nSend with pDrain: `it.next` is open, so it would be the producer's turn
        exact ((hcpl rfl).1 rfl).elim
      case h_4 =>
        -- the item goes from pSend to nRecv
        split at st <;> simp at st
        subst st
        exact { h with
          closedIdle := nofun, coupled := rfl
          acct := by simpa [CPc.inflight] using hacct }
    · -- `it.closed` is set: the consumer is idle and takes part in no rendezvous
      obtain rfl := hidle rfl
      cases st
  · cases ppc <;> simp [producerSteps, PPc.afterCloseItems] at st
    case pWaitFirst | pWaitNext =>
      -- woken by `close(it.next)`
      obtain ⟨rfl, rfl⟩ := st
      exact { h with coupled := nofun }
    case pDrain =>
      -- the range loop ends: `it.next` is closed
      obtain ⟨rfl, rfl⟩ := st
      exact { h with coupled := rfl }
    case pPin =>
      -- the visit starts
      subst st
      exact { h with pin := rfl }
    case pVisit =>
      -- the visit is over (`todo = []`), or goes on to send
      split at st <;> simp at st <;> subst st
      · exact { h with coupled := fun _ => ⟨hcpl ▸ nofun, rfl⟩ }
      · exact { h with coupled := ⟨hcpl, nofun⟩ }
    case pUnpin | pCloseItems =>
      -- the deferred unpin and `close(it.items)`
      subst st
      exact { h with itemsCl := rfl, pin := rfl }

theorem reach_inv {items : List Nat} {p0 : List Cmd} {s : State} (hr : Reach items p0 s) :
    Inv items p0 s := by
  induction hr with
  | init => exact inv_init items p0
  | step _ st ih => exact inv_step ih st

/-- NO PANIC.  In no reachable state has a goroutine panicked: `it.next` and `it.items` are closed
at most once each and nobody ever sends on a closed channel. -/
theorem no_panic {items : List Nat} {p0 : List Cmd} {s : State} (hr : Reach items p0 s) :
    s.panicked = false :=
  (reach_inv hr).noPanic

/-- the producer is about to receive from `it.next` -/
def PPc.recvNext : PPc → Bool
  | .pWaitFirst | .pWaitNext | .pDrain => true
  | _ => false

/-! Where a goroutine blocks: the consumer at the end of its program and at its two channel
operations, the producer at its channel operations and after its exit. -/

theorem consumer_blocked {s : State} (h : consumerSteps s = []) :
    (s.cpc = .idle ∧ s.prog = []) ∨ (s.cpc = .nSend ∧ s.nextClosed = false) ∨
      (s.cpc = .nRecv ∧ s.itemsClosed = false) := by
  unfold consumerSteps at h
  (repeat' split at h) <;> simp_all

theorem producer_blocked {s : State} (h : producerSteps s = []) :
    (s.ppc.recvNext = true ∧ s.nextClosed = false) ∨ (s.ppc = .pSend ∧ s.itemsClosed = false) ∨
      s.ppc = .pExited := by
  unfold producerSteps at h
  (repeat' split at h) <;> simp_all [PPc.recvNext]

theorem joint_blocked {s : State} (h : jointSteps s = []) :
    ¬ (s.cpc = .nSend ∧ s.nextClosed = false ∧ s.ppc.recvNext = true) ∧
      ¬ (s.cpc = .nRecv ∧ s.ppc = .pSend ∧ s.itemsClosed = false ∧ s.todo ≠ []) := by
  unfold jointSteps at h
  (repeat' split at h) <;> simp_all [PPc.recvNext]

/-- The deadlock analysis: of the 3 × 3 pairs of places where the two goroutines block, two are `Done`; in two a
rendezvous is enabled; three are not in the table `Coupled`; and in the two with the consumer in `<-it.items` and the
producer draining or exited, `it.items` is closed (`itemsCl`), so the consumer is not blocked. -/
theorem Inv.done_of_stuck {items : List Nat} {p0 : List Cmd} {s : State} (h : Inv items p0 s)
    (he : enabled s = []) : Done s := by
  obtain ⟨hc, hj, hp⟩ : consumerSteps s = [] ∧ jointSteps s = [] ∧ producerSteps s = [] := by
    simpa [enabled, h.noPanic, and_assoc] using he
  obtain ⟨hj1, hj2⟩ := joint_blocked hj
  have hcp := h.coupled
  have hnc := h.nextCl
  have hic := h.itemsCl
  rcases consumer_blocked hc with ⟨c1, c2⟩ | ⟨c1, c2⟩ | ⟨c1, c2⟩ <;>
    rcases producer_blocked hp with ⟨p1, p2⟩ | ⟨p1, p2⟩ | p1
  · -- finished, waiting for a token: the abandoned iterator
    rw [c1, p2] at hcp hnc
    exact ⟨c1, c2, .inr ⟨by simpa [CPc.afterCloseNext] using hnc.symm, hcp.waits⟩⟩
  · -- finished, pSend: not in the table
    rw [c1, p1] at hcp; cases hcp.1
  · -- finished, exited
    exact ⟨c1, c2, .inl p1⟩
  · -- nSend, receiving from `it.next`: the rendezvous is enabled
    exact absurd ⟨c1, c2, p1⟩ hj1
  · -- nSend, pSend and nSend, exited: not in the table
    rw [c1, p1] at hcp; cases hcp.1
  · rw [c1, p1, c2] at hcp; cases hcp
  · -- nRecv, receiving from `it.next`: by the table that is pDrain, but then `it.items` is closed
    rw [c1] at hcp; rw [hic] at c2
    cases hp : s.ppc <;> rw [hp] at hcp c2 p1 <;> contradiction
  · -- nRecv, pSend: the rendezvous is enabled
    rw [p1] at hcp
    exact absurd ⟨c1, p1, c2, hcp.2⟩ hj2
  · -- nRecv, exited: `it.items` is closed
    rw [hic, p1] at c2; cases c2

theorem Inv.stuck_of_done {items : List Nat} {p0 : List Cmd} {s : State} (h : Inv items p0 s)
    (hd : Done s) : enabled s = [] := by
  obtain ⟨d1, d2, d3⟩ := hd
  have hn := h.nextCl
  suffices producerSteps s = [] by simp [enabled, consumerSteps, jointSteps, d1, d2, this]
  rcases d3 with d3 | ⟨d3, d4⟩
  · simp [producerSteps, d3]
  · rw [d1, d3] at hn
    revert d4; cases hp : s.ppc <;> simp [producerSteps, hp, hn, PPc.waiting, CPc.afterCloseNext]

theorem stuck_iff_done {items : List Nat} {p0 : List Cmd} {s : State} (hr : Reach items p0 s) :
    enabled s = [] ↔ Done s :=
  ⟨(reach_inv hr).done_of_stuck, (reach_inv hr).stuck_of_done⟩

/-- PROGRESS / NO DEADLOCK.  A reachable state either has a successor, or it is `Done`: the
consumer has finished its program and the producer goroutine has exited or — only if the program
neither closed nor exhausted the iterator (an abandoned iterator) — is blocked waiting for the next
token.  There is no other stuck state. -/
theorem progress {items : List Nat} {p0 : List Cmd} {s : State} (hr : Reach items p0 s) :
    (∃ s', Step s s') ∨ Done s := by
  cases he : enabled s with
  | nil => exact .inr ((reach_inv hr).done_of_stuck he)
  | cons s' _ => exact .inl ⟨s', by simp [Step, he]⟩

/-- On reachable states the model's decidable `final` coincides with `Done`: a finished consumer
with an iterator that was neither closed nor exhausted always leaves the producer blocked on
`<-it.next` (never in the middle of the visit). -/
theorem final_iff_done {items : List Nat} {p0 : List Cmd} {s : State} (hr : Reach items p0 s) :
    final s ↔ Done s := by
  have h := reach_inv hr
  refine and_congr_right fun hi => and_congr_right fun _ => ?_
  cases hc : s.closedFlag
  · have hw : s.ppc.waiting = true := by
      have := h.coupled
      rw [h.nextCl, hi, hc] at this
      exact this.waits
    simp [hw]
  · simp

theorem consumer_decreases {s s' : State} (hp : s.panicked = false) (st : s' ∈ consumerSteps s) :
    μ s' < μ s := by
  -- one case per branch of `consumerSteps`; in each, `st` names the successor and `μ` is computed
  unfold consumerSteps at st
  (repeat' split at st) <;> simp at st <;> subst st <;> simp [μ, CPc.weight, *] <;> omega

theorem joint_decreases {s s' : State} (st : s' ∈ jointSteps s) : μ s' < μ s := by
  unfold jointSteps at st
  (repeat' split at st) <;> simp at st <;> subst st <;> simp [μ, CPc.weight, PPc.weight, *] <;>
    omega

theorem producer_decreases {s s' : State} (hp : s.panicked = false) (st : s' ∈ producerSteps s) :
    μ s' < μ s := by
  unfold producerSteps at st
  (repeat' split at st) <;> simp at st <;> subst st <;> simp [μ, PPc.weight, *]

/-- TERMINATION.  Every step — of ANY state, reachable or not — strictly decreases the natural
number `μ`; so there is no infinite execution, whatever the scheduler does. -/
theorem terminates {s s' : State} (st : Step s s') : μ s' < μ s := by
  obtain ⟨hp, h | h | h⟩ := step_cases st
  · exact consumer_decreases hp h
  · exact joint_decreases h
  · exact producer_decreases hp h

/-- executions of exactly `n` steps -/
inductive Exec : Nat → State → State → Prop where
  | refl (s : State) : Exec 0 s s
  | step {n : Nat} {s s' s'' : State} : Step s s' → Exec n s' s'' → Exec (n + 1) s s''

theorem exec_bounded {n : Nat} {s s' : State} (h : Exec n s s') : n + μ s' ≤ μ s := by
  induction h with
  | refl => simp
  | step st _ ih => have := terminates st; omega

theorem exec_reach {items : List Nat} {p0 : List Cmd} {n : Nat} {s s' : State}
    (hr : Reach items p0 s) (h : Exec n s s') : Reach items p0 s' := by
  induction h with
  | refl => exact hr
  | step st _ ih => exact ih (hr.step st)

theorem run_reach {items : List Nat} {p0 : List Cmd} (n : Nat) {s : State}
    (hr : Reach items p0 s) : Reach items p0 (run n s) := by
  induction n generalizing s with
  | zero => exact hr
  | succ n ih =>
    unfold run
    split
    · exact hr
    · rename_i s' rest he
      exact ih (hr.step (by simp [Step, he]))

theorem run_stuck (n : Nat) (s : State) (h : μ s ≤ n) : enabled (run n s) = [] := by
  induction n generalizing s with
  | zero =>
    unfold run
    cases he : enabled s with
    | nil => rfl
    | cons s' rest =>
      have : μ s' < μ s := terminates (by simp [Step, he])
      omega
  | succ n ih =>
    unfold run
    split
    · assumption
    · rename_i s' rest he
      have : μ s' < μ s := terminates (by simp [Step, he])
      exact ih s' (by omega)

/-- From every reachable state the handshake completes: the first-enabled scheduler, given `μ s`
units of fuel, ends in a reachable `Done` state.  (By `progress` and `exec_bounded` EVERY maximal
execution ends in a `Done` state after at most `μ s` steps.) -/
theorem run_done {items : List Nat} {p0 : List Cmd} {s : State} (hr : Reach items p0 s) :
    Reach items p0 (run (μ s) s) ∧ Done (run (μ s) s) :=
  ⟨run_reach _ hr, (stuck_iff_done (run_reach _ hr)).1 (run_stuck _ _ (Nat.le_refl _))⟩

theorem maximal_exec_done {items : List Nat} {p0 : List Cmd} {n : Nat} {s : State}
    (h : Exec n (init items p0) s) (hmax : ∀ s', ¬ Step s s') :
    Done s ∧ n ≤ μ (init items p0) :=
  ⟨(progress (exec_reach .init h)).resolve_left fun ⟨s', hs'⟩ => hmax s' hs',
    by have := exec_bounded h; omega⟩

/-- PRODUCER EXITS.  In a reachable `Done` state in which the iterator was closed or exhausted
(`it.closed` is set: `Close()` was called or a `Next()` returned false), the producer goroutine has
returned and the version pin taken by the visit has been released: no goroutine leak, no pin leak. -/
theorem producer_exits {items : List Nat} {p0 : List Cmd} {s : State} (hr : Reach items p0 s)
    (hd : Done s) (hc : s.closedFlag = true) : s.ppc = .pExited ∧ s.pinned = false := by
  have hp := hd.2.2.resolve_right fun h => by simp [hc] at h
  exact ⟨hp, by rw [(reach_inv hr).pin, hp]; rfl⟩

/-- More generally the pin is held exactly while the producer is inside the visit, so in every
reachable state in which the goroutine has exited (or has not yet started the visit) no pin is
held. -/
theorem pinned_iff_in_visit {items : List Nat} {p0 : List Cmd} {s : State}
    (hr : Reach items p0 s) : s.pinned = s.ppc.inVisit :=
  (reach_inv hr).pin

/-- If the program ends with the iterator closed or exhausted, then EVERY maximal execution ends
with the producer exited and the pin released. -/
theorem closed_program_no_leak {items : List Nat} {p0 : List Cmd} {n : Nat} {s : State}
    (h : Exec n (init items p0) s) (hmax : ∀ s', ¬ Step s s') (hc : s.closedFlag = true) :
    s.ppc = .pExited ∧ s.pinned = false :=
  producer_exits (exec_reach .init h) (maximal_exec_done h hmax).1 hc

/-- a step of the producer alone leaves everything the consumer owns as it is -/
theorem producer_frame {s s' : State} (st : s' ∈ producerSteps s) :
    s'.closedFlag = s.closedFlag ∧ s'.cpc = s.cpc ∧ s'.prog = s.prog ∧ s'.outs = s.outs ∧
      s'.nextClosed = s.nextClosed := by
  unfold producerSteps at st
  (repeat' split at st) <;> simp at st <;> subst st <;> simp

/-- Once `it.closed` is set the consumer is between two commands (it is never inside a `Next` or
`Close` that still has channel operations ahead) and `it.next` is closed. -/
theorem closed_consumer_idle {items : List Nat} {p0 : List Cmd} {s : State}
    (hr : Reach items p0 s) (hc : s.closedFlag = true) : s.cpc = .idle ∧ s.nextClosed = true := by
  have h := reach_inv hr
  exact ⟨h.closedIdle hc, by rw [h.nextCl, hc]; rfl⟩

/-- what a command reports on a closed iterator -/
def Cmd.closedResult : Cmd → Out
  | .next => .nextFalse
  | .close => .closed

theorem consumerSteps_closed {s : State} (hc : s.closedFlag = true) (hi : s.cpc = .idle) :
    consumerSteps s = match s.prog with
      | [] => []
      | c :: r => [{ s with prog := r, outs := s.outs ++ [c.closedResult] }] := by
  unfold consumerSteps
  rw [hi]
  rcases s.prog with _ | ⟨_ | _, r⟩ <;> simp [hc, Cmd.closedResult]

theorem jointSteps_idle {s : State} (hi : s.cpc = .idle) : jointSteps s = [] := by
  simp [jointSteps, hi]

/-- Local form (no reachability needed): with `it.closed` set, the only move of a consumer that is
about to execute `Next()` is to report `nextFalse`; all other components of the state — in
particular both channels — are unchanged, and no rendezvous is possible. -/
theorem next_when_closed_local (s : State) (r : List Cmd) (hc : s.closedFlag = true)
    (hi : s.cpc = .idle) (hp : s.prog = .next :: r) :
    consumerSteps s = [{ s with prog := r, outs := s.outs ++ [.nextFalse] }] ∧ jointSteps s = [] :=
  ⟨by rw [consumerSteps_closed hc hi, hp]; rfl, jointSteps_idle hi⟩

/-- NEXT AFTER THE END.  Let `s` be reachable with `it.closed` set (the iterator was closed or
exhausted).  Then every step from `s` keeps `it.closed` set and is
 * either a step of the producer alone (consumer pc, program and outputs unchanged),
 * or the consumer pops its next command `c` and reports `nextFalse` (for `Next`) resp. `closed`
   (for `Close`), and NOTHING else changes: no channel operation, no rendezvous, no close.
By induction on the first conjunct every later `Next()` returns false. -/
theorem next_after_end_false {items : List Nat} {p0 : List Cmd} {s s' : State}
    (hr : Reach items p0 s) (hc : s.closedFlag = true) (st : Step s s') :
    s'.closedFlag = true ∧
      ((s'.cpc = s.cpc ∧ s'.prog = s.prog ∧ s'.outs = s.outs ∧ s'.nextClosed = s.nextClosed) ∨
        ∃ c r, s.prog = c :: r ∧
          s' = { s with prog := r, outs := s.outs ++ [c.closedResult] }) := by
  have hi := (closed_consumer_idle hr hc).1
  obtain ⟨-, h | h | h⟩ := step_cases st
  · rw [consumerSteps_closed hc hi] at h
    split at h
    · cases h
    · rename_i c r hp
      obtain rfl := List.mem_singleton.1 h
      exact ⟨hc, .inr ⟨c, r, hp, rfl⟩⟩
  · rw [jointSteps_idle hi] at h; cases h
  · exact ⟨(producer_frame h).1.trans hc, .inl (producer_frame h).2⟩

/-- REPORTED ITEMS.  In every reachable state the items reported so far by `Next() = true`, in
order, form a prefix of `items`; more precisely `items` is: the reported items, then the item the
consumer has received but not yet returned (if any), then what the visit still has to deliver. -/
theorem outputs_prefix {items : List Nat} {p0 : List Cmd} {s : State} (hr : Reach items p0 s) :
    reported s.outs <+: items ∧ reported s.outs ++ s.cpc.inflight ++ s.todo = items := by
  have h := (reach_inv hr).acct
  refine ⟨⟨s.cpc.inflight ++ s.todo, ?_⟩, h⟩
  rw [← List.append_assoc]; exact h

theorem reported_specClosed (p : List Cmd) : reported (specClosed p) = [] := by
  induction p with
  | nil => rfl
  | cons c p ih => cases c <;> exact ih

theorem spec_nextFalse (todo : List Nat) (p : List Cmd) (pre post : List Out)
    (h : spec todo p = pre ++ .nextFalse :: post) (hc : Out.closed ∉ pre) :
    reported pre = todo := by
  fun_induction spec todo p generalizing pre with
  | case1 => cases pre <;> cases h
  | case2 _ p =>
    rcases List.cons_eq_append_iff.1 h with ⟨_, e⟩ | ⟨pre', rfl, _⟩
    · cases e
    · exact absurd List.mem_cons_self hc
  | case3 p =>
    -- `pre` is a piece of `specClosed`, which reports nothing
    have := congrArg reported h
    rw [reported_append] at this
    exact (List.append_eq_nil_iff.1 (this.symm.trans (reported_specClosed p))).1
  | case4 i t p ih =>
    rcases List.cons_eq_append_iff.1 h with ⟨_, e⟩ | ⟨pre', rfl, h'⟩
    · cases e
    · exact congrArg (i :: ·) (ih pre' h' fun hm => hc (List.mem_cons_of_mem _ hm))

/-- EXHAUSTION.  Whenever the outputs so far contain a `nextFalse` that is not preceded by a
`closed` (a `Next()` returned false although the program had not called `Close()`: the iterator
reported exhaustion), ALL items had been reported before it. -/
theorem nextFalse_exhaustion {items : List Nat} {p0 : List Cmd} {s : State}
    (hr : Reach items p0 s) (pre post : List Out) (ho : s.outs = pre ++ .nextFalse :: post)
    (hc : Out.closed ∉ pre) : reported pre = items := by
  have h := (reach_inv hr).specOk
  rw [ho, List.append_assoc, List.cons_append] at h
  exact spec_nextFalse items p0 pre _ h hc

/-- In a reachable `Done` state the observable results are exactly those of the sequential
specification: each `Next()` on the open iterator reports the next item, the first `Next()` after
the last item reports false, `Close()` reports `closed`, and after either of the latter every
`Next()` reports false. -/
theorem done_outs_eq_spec {items : List Nat} {p0 : List Cmd} {s : State} (hr : Reach items p0 s)
    (hd : Done s) : s.outs = spec items p0 := by
  simpa [future, hd.1, hd.2.1, spec, specClosed] using (reach_inv hr).specOk.symm

theorem outputs_eq_spec (items : List Nat) (p0 : List Cmd) : outputs items p0 = spec items p0 := by
  obtain ⟨hr, hd⟩ := run_done (Reach.init (items := items) (prog := p0))
  exact done_outs_eq_spec hr hd

/-- DETERMINISM OF OBSERVABLES.  Whatever the interleaving, every reachable `Done` state carries
the same outputs, namely those computed by the executable first-enabled runner `outputs`. -/
theorem observable_deterministic {items : List Nat} {p0 : List Cmd} {s : State}
    (hr : Reach items p0 s) (hd : Done s) : s.outs = outputs items p0 := by
  rw [outputs_eq_spec]; exact done_outs_eq_spec hr hd

theorem outs_prefix_outputs {items : List Nat} {p0 : List Cmd} {s : State}
    (hr : Reach items p0 s) : s.outs <+: outputs items p0 := by
  rw [outputs_eq_spec, (reach_inv hr).specOk]
  exact List.prefix_append _ _

/-! ### non-vacuity -/

open Cmd Out in
example : outputs [1, 2, 3] [next, next, close, next] =
    [nextTrue 1, nextTrue 2, closed, nextFalse] := by decide

open Cmd Out in
/-- exhaustion: the fourth `Next` reports false, and so does the fifth; `Close` is then a no-op -/
example : outputs [1, 2, 3] [next, next, next, next, next, close] =
    [nextTrue 1, nextTrue 2, nextTrue 3, nextFalse, nextFalse, closed] := by decide

open Cmd Out in
/-- an abandoned iterator: the program stops after one `Next` -/
example : outputs [1, 2, 3] [next] = [nextTrue 1] := by decide

/-- a concrete reachable `Done` state with the producer exited and the pin released -/
example : ∃ s, Reach [1, 2, 3] [.next, .next, .close, .next] s ∧ Done s ∧
    s.closedFlag = true ∧ s.ppc = .pExited ∧ s.pinned = false ∧ s.todo = [3] :=
  ⟨run 42 (init [1, 2, 3] [.next, .next, .close, .next]), run_reach _ .init, by decide, by decide,
    by decide, by decide, by decide⟩

/-- the producer-first scheduler reaches the same `Done` state -/
example : runLast 42 (init [1, 2, 3] [.next, .next, .close, .next]) =
    run 42 (init [1, 2, 3] [.next, .next, .close, .next]) := by decide

/-- an abandoned iterator ends in a `Done` state with the producer blocked (and still pinned): the
case the leak theorems exclude -/
example : ∃ s, Reach [1, 2, 3] [.next] s ∧ Done s ∧ s.closedFlag = false ∧
    s.ppc = .pWaitNext ∧ s.pinned = true :=
  ⟨run 42 (init [1, 2, 3] [.next]), run_reach _ .init, by decide, by decide, by decide, by decide⟩

/-- interleaving is real: right after `close(it.next)` both the consumer (`it.closed = true`) and
the producer (wake up with ok = false) can move -/
example : (enabled (run 8 (init [1, 2, 3] [.next, .close]))).length = 2 := by decide

/-- exhaustive check of a small instance: ALL maximal executions (15 interleavings) end `Done`,
with the same outputs -/
example : (explore 60 (init [1, 2] [.next, .close, .next])).length = 15 ∧
    ∀ s ∈ explore 60 (init [1, 2] [.next, .close, .next]),
      Done s ∧ s.ppc = .pExited ∧ s.pinned = false ∧
        s.outs = [.nextTrue 1, .closed, .nextFalse] := by decide

end Gkv.Iter
