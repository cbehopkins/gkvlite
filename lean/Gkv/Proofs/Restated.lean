/-
The main statements of `FlushFault`, `EraseLocs`, `CopyContents` and `Chunks` (those the property
files C07, C11, C17 and the refinement proofs build on, and their companions), written out in full
as `example`s, each closed by the theorem that proves it: what is proved is exactly what stands
here, whatever the helper definitions of those files look like.  At the end the axioms of these
theorems, and of the lemmas of those files they rest on, are printed.
-/
import Gkv.Proofs.FlushFault
import Gkv.Proofs.EraseLocs
import Gkv.Proofs.CopyContents
import Gkv.Proofs.Chunks

namespace Gkv

example (cs : List Coll) (s : FileSt) (h0 : s.failed = false)
    (k : Nat) (hk : s.failAt = some (k+1)) (hcons : (flushStore cs s).2.failAt = none) :
    (flushStore cs s).2.failed = true :=
  flushStore_fault_reported cs s h0 k hk hcons

example (cs : List Coll) (s : FileSt) (h0 : s.failed = false)
    (hok : (flushStore cs s).2.failed = false) :
    (flushStore cs s).2.bytes = (flushStore cs { s with failAt := none }).2.bytes ∧
    (flushStore cs s).2.size = (flushStore cs { s with failAt := none }).2.size ∧
    (flushStore cs s).1 = (flushStore cs { s with failAt := none }).1 :=
  flushStore_unfailed_same_bytes cs s h0 hok

example (cs : List Coll) (s : FileSt) (hsz : s.size ≤ s.bytes.length)
    (hc : ∀ c ∈ cs, c.root.Coherent s.bytes s.size) (hok : ∀ c ∈ cs, c.root.SizesOK)
    (hlim : (flushStore cs s).2.size < 2^32) :
    ∀ c ∈ (flushStore cs s).1, c.root.Coherent (flushStore cs s).2.bytes (flushStore cs s).2.size :=
  fun c h => (flushStore_coherent_any cs s hsz hc hok hlim c h).1

example (cmp) (t : Tree) : Tree.BST cmp t.eraseLocs ↔ Tree.BST cmp t := bst_eraseLocs cmp t
example (t : Tree) : Tree.AggOK t.eraseLocs ↔ Tree.AggOK t := aggOK_eraseLocs t
example (t : Tree) : Tree.HeapOK t.eraseLocs ↔ Tree.HeapOK t := heapOK_eraseLocs t
example (cmp) (t : Tree) (k : Bytes) : Tree.get cmp t.eraseLocs k = Tree.get cmp t k :=
  get_eraseLocs cmp t k
example (t : Tree) (d : Nat) : Tree.inorderD t.eraseLocs d = Tree.inorderD t d :=
  inorderD_eraseLocs t d
example (cmp) (t : Tree) (i : Item) :
    (Tree.setItem cmp t i).eraseLocs = (Tree.setItem cmp t.eraseLocs i).eraseLocs :=
  setItem_eraseLocs cmp t i
example (cmp) (t : Tree) (k : Bytes) :
    (Tree.delete cmp t k).1.eraseLocs = (Tree.delete cmp t.eraseLocs k).1.eraseLocs ∧
      (Tree.delete cmp t k).2 = (Tree.delete cmp t.eraseLocs k).2 :=
  delete_eraseLocs cmp t k

example (cmp) [Std.TransCmp cmp] (l : List Item) (h : Spec.Sorted cmp l) :
    l.foldl (Spec.insert cmp) [] = l := insert_all_sorted cmp l [] h

example (src : List Coll) (fe : Int)
    (hb : ∀ c ∈ src, Tree.BST c.cmp.fn c.root)
    (hnames : src.Pairwise (fun a b => compare a.name b.name = .lt)) :
    (copyTo src fe).1.map (fun c => (c.name, c.cmp, c.root.toList)) =
      src.map (fun c => (c.name, c.cmp, c.root.toList)) :=
  copyTo_contents src fe hb hnames

example (f : Bytes) (off : Nat) (b : Bytes) (c : Nat) (hc : 1 ≤ c) (hoff : off ≤ f.length) :
    writeChunks f off b c (b.length + 1) = writeAt f off b := writeChunks_eq f off b c hc hoff

example (f : Bytes) (off len c : Nat) (hc : 1 ≤ c) (b : Bytes) (h : readAt f off len = some b) :
    readChunks f off len c (len + 1) = some b := readChunks_eq f off len c hc b h

example (f : Bytes) (off : Nat) (a b : Bytes) (hoff : off ≤ f.length) :
    writeAt (writeAt f off a) (off + a.length) b = writeAt f off (a ++ b) :=
  writeAt_append f off a b hoff

#guard writeChunks [1, 2, 3, 4, 5, 6, 7, 8] 2 [9, 9, 9, 9, 9] 2 6 == writeAt [1, 2, 3, 4, 5, 6, 7, 8] 2 [9, 9, 9, 9, 9]
#guard writeChunks [1, 2, 3] 3 [7, 8, 9, 10] 3 5 == [1, 2, 3, 7, 8, 9, 10]
#guard readChunks [1, 2, 3, 4, 5, 6, 7, 8] 1 5 2 6 == some [2, 3, 4, 5, 6]
#guard readChunks [1, 2, 3] 1 5 2 6 == none

#print axioms flushStore_fault_reported
#print axioms flushStore_unfailed_same_bytes
#print axioms flushStore_unfailed_same_log
#print axioms flushStore_unfailed_plan
#print axioms flushStore_coherent_any
#print axioms flushStore_retry_ready
#print axioms bst_eraseLocs
#print axioms aggOK_eraseLocs
#print axioms heapOK_eraseLocs
#print axioms get_eraseLocs
#print axioms inorderD_eraseLocs
#print axioms split_eraseLocs
#print axioms union_eraseLocs
#print axioms join_eraseLocs
#print axioms setItem_eraseLocs
#print axioms delete_eraseLocs
#print axioms insert_all_sorted
#print axioms copyTo_contents
#print axioms copyTo_view_indep
#print axioms writeAt_append
#print axioms readAt_split
#print axioms writeChunks_eq
#print axioms readChunks_eq
#print axioms readChunks_writeChunks

end Gkv
