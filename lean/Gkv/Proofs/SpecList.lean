/-
Facts about the list spec (`Spec.lookup`, `Spec.erase`, `Spec.insert`): what they conserve on any
list, under any comparator, and what they do on a list that is cut at the key in question.
-/
import Gkv.Model.Spec
open Std

namespace Gkv
namespace Spec

variable (cmp : Bytes → Bytes → Ordering)

/-- `erase` removes exactly the item that `lookup` finds (on any list, sorted or not) -/
theorem erase_perm : ∀ (l : List Item) (k : Bytes),
    l.Perm ((lookup cmp l k).toList ++ erase cmp l k)
  | [], _ => .refl _
  | j :: l, k => by
    unfold lookup erase
    split
    · exact .refl _
    · exact .refl _
    · exact ((erase_perm l k).cons j).trans List.perm_middle.symm

/-- `insert` puts the item in the place of the one that `erase` removes -/
theorem insert_perm : ∀ (l : List Item) (i : Item),
    (insert cmp l i).Perm (i :: erase cmp l i.key)
  | [], _ => .refl _
  | j :: l, i => by
    unfold insert erase
    split
    · exact .refl _
    · exact .refl _
    · exact ((insert_perm l i).cons j).trans (.swap ..)

theorem mem_of_lookup {l : List Item} {k : Bytes} {x : Item} (h : lookup cmp l k = some x) : x ∈ l :=
  (erase_perm cmp l k).symm.subset (by rw [h]; exact List.mem_cons_self)

theorem mem_insert : ∀ (l : List Item) (i x : Item), x ∈ insert cmp l i → x = i ∨ x ∈ l :=
  fun l i _ h => (List.mem_cons.mp ((insert_perm cmp l i).subset h)).imp_right fun hx =>
    (erase_perm cmp l i.key).symm.subset (List.mem_append_right _ hx)

theorem erase_length_le (l : List Item) (k : Bytes) : (erase cmp l k).length ≤ l.length := by
  rw [(erase_perm cmp l k).length_eq, List.length_append]
  exact Nat.le_add_left ..

theorem erase_bytes_le (l : List Item) (k : Bytes) :
    ((erase cmp l k).map Item.nbytes).sum ≤ (l.map Item.nbytes).sum := by
  rw [((erase_perm cmp l k).map _).sum_nat, List.map_append, List.sum_append]
  exact Nat.le_add_left ..

theorem insert_length_le (l : List Item) (i : Item) : (insert cmp l i).length ≤ l.length + 1 := by
  rw [(insert_perm cmp l i).length_eq]
  exact Nat.succ_le_succ (erase_length_le cmp l _)

theorem insert_bytes_le (l : List Item) (i : Item) :
    ((insert cmp l i).map Item.nbytes).sum ≤ (l.map Item.nbytes).sum + i.nbytes := by
  rw [((insert_perm cmp l i).map _).sum_nat, List.map_cons, List.sum_cons, Nat.add_comm]
  exact Nat.add_le_add_right (erase_bytes_le cmp l _) _

/-- `l` is cut at key `s` into `L` (below `s`), `m` (at `s`, at most one item) and `R` (above `s`) -/
structure Cut (s : Bytes) (l L : List Item) (m : Option Item) (R : List Item) : Prop where
  app : l = L ++ m.toList ++ R
  below : ∀ x ∈ L, cmp x.key s = .lt
  mid : ∀ x ∈ m, cmp s x.key = .eq
  above : ∀ x ∈ R, cmp x.key s = .gt

variable {cmp} [OrientedCmp cmp] {s : Bytes} {l L R : List Item} {m : Option Item}

/-- The one fact about the specification's three functions: each walks past `L`, acts on `m` or in
    its place, and never looks at `R`. -/
theorem Cut.spec (h : Cut cmp s l L m R) :
    lookup cmp l s = m ∧ erase cmp l s = L ++ R ∧
      ∀ v p, insert cmp l ⟨s, v, p⟩ = L ++ ⟨s, v, p⟩ :: R := by
  obtain ⟨rfl, hL, hm, hR⟩ := h
  induction L with
  | cons x L ih =>
    -- `s` is above `x`: all three step over it
    simp only [List.cons_append, lookup, erase, insert, OrientedCmp.gt_of_lt (hL x (.head _)),
      ih fun y hy => hL y (.tail _ hy), true_and, implies_true]
  | nil =>
    cases m with
    | some j =>
      simp only [Option.toList, List.nil_append, List.cons_append, lookup, erase, insert, hm j rfl,
        true_and, implies_true]
    | none =>
      cases R with
      | nil => exact ⟨rfl, rfl, fun _ _ => rfl⟩
      | cons y R =>
        -- `s` is below `y`: all three stop in front of it
        simp only [Option.toList, List.nil_append, lookup, erase, insert,
          OrientedCmp.lt_of_gt (hR y (.head _)), true_and, implies_true]

theorem Cut.lookup (h : Cut cmp s l L m R) : lookup cmp l s = m := h.spec.1

theorem Cut.erase (h : Cut cmp s l L m R) : erase cmp l s = L ++ R := h.spec.2.1

theorem Cut.insert {i : Item} (h : Cut cmp i.key l L m R) : insert cmp l i = L ++ i :: R :=
  h.spec.2.2 i.val i.prio

end Spec
end Gkv
