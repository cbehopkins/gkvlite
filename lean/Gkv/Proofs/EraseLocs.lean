/-
File locations are invisible to the API (`Tree.eraseLocs` forgets them): the invariants, the
lookups, the iteration order and the results of the in-memory algorithms (`split`, `union`, `join`,
`setItem`, `delete`) do not depend on the `loc`/`iloc` fields of the nodes.  For the algorithms the
oriented form comes first: run on the location-free tree they give the location-free result
(`split_eraseLocs`, `union_eraseLocs`, `join_eraseLocs`, `setItem_eraseLocs'`, `delete_eraseLocs'`).
-/
import Gkv.Proofs.Split

namespace Gkv

/-- forget the file locations: what the API can observe of a tree -/
def Tree.eraseLocs : Tree → Tree
  | .nil => .nil
  | .node l i a b r _ _ => .node l.eraseLocs i a b r.eraseLocs none none

open Tree

theorem toList_eraseLocs (t : Tree) : t.eraseLocs.toList = t.toList := by
  induction t with
  | nil => rfl
  | node l i a b r p q ihl ihr => simp only [Tree.eraseLocs, Tree.toList]; rw [ihl, ihr]

theorem nn_eraseLocs (t : Tree) : t.eraseLocs.nn = t.nn := by cases t <;> rfl
theorem nb_eraseLocs (t : Tree) : t.eraseLocs.nb = t.nb := by cases t <;> rfl

theorem eraseLocs_eraseLocs (t : Tree) : t.eraseLocs.eraseLocs = t.eraseLocs := by
  induction t with
  | nil => rfl
  | node l i a b r p q ihl ihr => simp only [Tree.eraseLocs]; rw [ihl, ihr]

theorem size_eraseLocs (t : Tree) : t.eraseLocs.size = t.size := by
  induction t with
  | nil => rfl
  | node l i a b r p q ihl ihr => simp only [Tree.eraseLocs, Tree.size]; rw [ihl, ihr]

theorem rootPrio_eraseLocs (t : Tree) : t.eraseLocs.rootPrio = t.rootPrio := by
  cases t <;> rfl

theorem eraseLocs_mk (l r : Tree) (i : Item) (q : Option Ploc) :
    (Tree.mk l i r q).eraseLocs = Tree.mk l.eraseLocs i r.eraseLocs none := by
  simp only [Tree.mk, Tree.eraseLocs, nn_eraseLocs, nb_eraseLocs]

theorem all_eraseLocs (p : Item → Prop) (t : Tree) : Tree.All p t.eraseLocs ↔ Tree.All p t := by
  rw [All_iff_toList, All_iff_toList, toList_eraseLocs]

theorem bst_eraseLocs (cmp : Bytes → Bytes → Ordering) (t : Tree) :
    Tree.BST cmp t.eraseLocs ↔ Tree.BST cmp t := by
  induction t with
  | nil => exact Iff.rfl
  | node l i a b r _ _ ihl ihr =>
    simp only [Tree.eraseLocs, Tree.BST]
    rw [ihl, ihr, all_eraseLocs, all_eraseLocs]

theorem aggOK_eraseLocs (t : Tree) : Tree.AggOK t.eraseLocs ↔ Tree.AggOK t := by
  induction t with
  | nil => exact Iff.rfl
  | node l i a b r _ _ ihl ihr =>
    simp only [Tree.eraseLocs, Tree.AggOK]
    rw [ihl, ihr, size_eraseLocs, size_eraseLocs, toList_eraseLocs, toList_eraseLocs]

theorem heapOK_eraseLocs (t : Tree) : Tree.HeapOK t.eraseLocs ↔ Tree.HeapOK t := by
  induction t with
  | nil => exact Iff.rfl
  | node l i a b r _ _ ihl ihr =>
    simp only [Tree.eraseLocs, Tree.HeapOK]
    rw [ihl, ihr, rootPrio_eraseLocs, rootPrio_eraseLocs]

theorem get_eraseLocs (cmp : Bytes → Bytes → Ordering) (t : Tree) (k : Bytes) :
    Tree.get cmp t.eraseLocs k = Tree.get cmp t k := by
  induction t with
  | nil => rfl
  | node l i a b r _ _ ihl ihr =>
    simp only [Tree.eraseLocs, Tree.get]
    rw [ihl, ihr]

theorem inorderD_eraseLocs (t : Tree) (d : Nat) :
    Tree.inorderD t.eraseLocs d = Tree.inorderD t d := by
  induction t generalizing d with
  | nil => rfl
  | node l i a b r _ _ ihl ihr =>
    simp only [Tree.eraseLocs, Tree.inorderD]
    rw [ihl, ihr]

theorem min_eraseLocs (t : Tree) : t.eraseLocs.min = t.min := by
  rw [Tree.min_eq_head, Tree.min_eq_head, toList_eraseLocs]

theorem max_eraseLocs (t : Tree) : t.eraseLocs.max = t.max := by
  rw [Tree.max_eq_getLast, Tree.max_eq_getLast, toList_eraseLocs]

theorem totals_eraseLocs (t : Tree) : t.eraseLocs.totals = t.totals := by
  unfold Tree.totals
  rw [nn_eraseLocs, nb_eraseLocs]

theorem visitAsc_eraseLocs (cmp : Bytes → Bytes → Ordering) (t : Tree) (tgt : Bytes) (d : Nat) :
    Tree.visitAsc cmp t.eraseLocs tgt d = Tree.visitAsc cmp t tgt d := by
  induction t generalizing d with
  | nil => rfl
  | node l i a b r _ _ ihl ihr =>
    simp only [Tree.eraseLocs, Tree.visitAsc]
    rw [ihl, ihr]

theorem visitDesc_eraseLocs (cmp : Bytes → Bytes → Ordering) (t : Tree) (tgt : Bytes) (d : Nat) :
    Tree.visitDesc cmp t.eraseLocs tgt d = Tree.visitDesc cmp t tgt d := by
  induction t generalizing d with
  | nil => rfl
  | node l i a b r _ _ ihl ihr =>
    simp only [Tree.eraseLocs, Tree.visitDesc]
    rw [ihl, ihr]

theorem split_eraseLocs (cmp : Bytes → Bytes → Ordering) (t : Tree) (s : Bytes) :
    Tree.split cmp t.eraseLocs s =
      ((Tree.split cmp t s).1.eraseLocs, (Tree.split cmp t s).2.1.eraseLocs,
        (Tree.split cmp t s).2.2.eraseLocs) := by
  induction t with
  | nil => rfl
  | node l i a b r p q ihl ihr =>
    simp only [Tree.eraseLocs]
    unfold Tree.split
    split
    · rfl
    · cases l with
      | nil => rfl
      | node ll li la lb lr lp lq =>
        simp only [Tree.eraseLocs] at ihl ⊢
        rw [ihl]
        simp only [eraseLocs_mk]
    · cases r with
      | nil => rfl
      | node rl ri ra rb rr rp rq =>
        simp only [Tree.eraseLocs] at ihr ⊢
        rw [ihr]
        simp only [eraseLocs_mk]

theorem union_eraseLocs (cmp : Bytes → Bytes → Ordering) (a b : Tree) :
    Tree.union cmp a.eraseLocs b.eraseLocs = (Tree.union cmp a b).eraseLocs := by
  fun_induction Tree.union cmp a b with
  | case1 b => rw [Tree.eraseLocs, Tree.union]
  | case2 a => rw [Tree.eraseLocs, union_nil_right]
  | case3 al ai an ab ar ap aq bl bi bn bb br bp bq hp x hsz nl nr ml mi mn mb mr mloc mq hm ihl ihr
  | case4 al ai an ab ar ap aq bl bi bn bb br bp bq hp x hsz nl nr hm ihl ihr =>
    have hs := split_eraseLocs cmp (node bl bi bn bb br bp bq) ai.key
    simp only [Tree.eraseLocs] at hs ⊢
    simp only [Tree.union, if_pos hp, hs]
    rw [hm, ihl, ihr, eraseLocs_mk]
    rfl
  | case5 al ai an ab ar ap aq bl bi bn bb br bp bq hp x hsz ihl ihr =>
    have hs := split_eraseLocs cmp (node al ai an ab ar ap aq) bi.key
    simp only [Tree.eraseLocs] at hs ⊢
    simp only [Tree.union, if_neg hp, hs]
    rw [ihl, ihr, eraseLocs_mk]

theorem join_eraseLocs (a b : Tree) :
    Tree.join a.eraseLocs b.eraseLocs = (Tree.join a b).eraseLocs := by
  fun_induction Tree.join a b with
  | case1 t => simp only [Tree.eraseLocs, Tree.join]
  | case2 l i a b r p q => simp only [Tree.eraseLocs, Tree.join]
  | case3 l1 i1 a1 b1 r1 p1 q1 l2 i2 a2 b2 r2 p2 q2 h ih =>
    simp only [Tree.eraseLocs] at ih ⊢
    rw [Tree.join, if_pos h, eraseLocs_mk, ← ih]
  | case4 l1 i1 a1 b1 r1 p1 q1 l2 i2 a2 b2 r2 p2 q2 h ih =>
    simp only [Tree.eraseLocs] at ih ⊢
    rw [Tree.join, if_neg h, eraseLocs_mk, ← ih]

theorem setItem_eraseLocs' (cmp : Bytes → Bytes → Ordering) (t : Tree) (i : Item) :
    Tree.setItem cmp t.eraseLocs i = (Tree.setItem cmp t i).eraseLocs := by
  unfold Tree.setItem
  rw [← union_eraseLocs]
  rfl

theorem setItem_eraseLocs (cmp : Bytes → Bytes → Ordering) (t : Tree) (i : Item) :
    (Tree.setItem cmp t i).eraseLocs = (Tree.setItem cmp t.eraseLocs i).eraseLocs := by
  rw [setItem_eraseLocs', eraseLocs_eraseLocs]

theorem delete_eraseLocs' (cmp : Bytes → Bytes → Ordering) (t : Tree) (k : Bytes) :
    Tree.delete cmp t.eraseLocs k = ((Tree.delete cmp t k).1.eraseLocs, (Tree.delete cmp t k).2) := by
  unfold Tree.delete
  rw [get_eraseLocs]
  cases Tree.get cmp t k with
  | none => rfl
  | some j =>
    dsimp only
    rw [split_eraseLocs, join_eraseLocs]

theorem delete_eraseLocs (cmp : Bytes → Bytes → Ordering) (t : Tree) (k : Bytes) :
    (Tree.delete cmp t k).1.eraseLocs = (Tree.delete cmp t.eraseLocs k).1.eraseLocs ∧
      (Tree.delete cmp t k).2 = (Tree.delete cmp t.eraseLocs k).2 := by
  rw [delete_eraseLocs', eraseLocs_eraseLocs]
  exact ⟨rfl, rfl⟩

end Gkv
