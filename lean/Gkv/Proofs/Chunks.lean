/-
Property C17 "neutral callbacks": a value written (read) in chunks leaves
(returns) the same bytes as one `WriteAt` (`ReadAt`).
-/
import Gkv.Proofs.Codec

namespace Gkv

/-- write `b` at `off` in chunks of `c` bytes (`c ≥ 1`); the last argument is fuel
    (`b.length + 1` is always enough) -/
def writeChunks (f : Bytes) (off : Nat) (b : Bytes) (c : Nat) : Nat → Bytes
  | 0 => f
  | fuel+1 =>
    if b = [] then f
    else writeChunks (writeAt f off (b.take c)) (off + (b.take c).length) (b.drop c) c fuel

theorem writeChunks_eq_of_fuel (f : Bytes) (off : Nat) (b : Bytes) (c : Nat) (hc : 1 ≤ c)
    (hoff : off ≤ f.length) (fuel : Nat) (hf : b.length < fuel) :
    writeChunks f off b c fuel = writeAt f off b := by
  induction fuel generalizing f off b with
  | zero => cases hf
  | succ fuel ih =>
    unfold writeChunks
    split
    · next hb => subst hb; rw [writeAt_nil]
    · next hb =>
      have hpos : 0 < b.length := List.length_pos_iff.mpr hb
      rw [ih (writeAt f off (b.take c)) (off + (b.take c).length) (b.drop c)
        (by rw [length_writeAt _ _ _ hoff]; exact Nat.le_max_right _ _)
        (by rw [List.length_drop]; omega)]
      rw [writeAt_append f off _ _ hoff, List.take_append_drop]

theorem writeChunks_eq (f : Bytes) (off : Nat) (b : Bytes) (c : Nat) (hc : 1 ≤ c)
    (hoff : off ≤ f.length) : writeChunks f off b c (b.length + 1) = writeAt f off b :=
  writeChunks_eq_of_fuel f off b c hc hoff (b.length + 1) (Nat.lt_succ_self _)

/-- read `len` bytes at `off` in chunks of at most `c` bytes (`c ≥ 1`) and concatenate them; the
    last argument is fuel (`len + 1` is always enough) -/
def readChunks (f : Bytes) (off len c : Nat) : Nat → Option Bytes
  | 0 => if len = 0 then some [] else none
  | fuel+1 =>
    if len = 0 then some []
    else
      match readAt f off (min c len) with
      | none => none
      | some x =>
        match readChunks f (off + min c len) (len - min c len) c fuel with
        | none => none
        | some y => some (x ++ y)

theorem readChunks_eq_of_fuel (f : Bytes) (off len c : Nat) (hc : 1 ≤ c) (b : Bytes)
    (h : readAt f off len = some b) (fuel : Nat) (hf : len < fuel) :
    readChunks f off len c fuel = some b := by
  induction fuel generalizing off len b with
  | zero => cases hf
  | succ fuel ih =>
    unfold readChunks
    split
    · next hl =>
      subst hl
      rw [List.eq_nil_of_length_eq_zero (readAt_length h)]
    · next hl =>
      have e : len = min c len + (len - min c len) := by omega
      rw [e] at h
      obtain ⟨h1, h2⟩ := readAt_split f off (min c len) (len - min c len) b h
      rw [h1]
      dsimp only
      rw [ih (off + min c len) (len - min c len) (b.drop (min c len)) h2 (by omega)]
      dsimp only
      rw [List.take_append_drop]

theorem readChunks_eq (f : Bytes) (off len c : Nat) (hc : 1 ≤ c) (b : Bytes)
    (h : readAt f off len = some b) : readChunks f off len c (len + 1) = some b :=
  readChunks_eq_of_fuel f off len c hc b h (len + 1) (Nat.lt_succ_self _)

theorem readChunks_writeChunks (f : Bytes) (b : Bytes) (c c' : Nat) (hc : 1 ≤ c) (hc' : 1 ≤ c') :
    readChunks (writeChunks f f.length b c (b.length + 1)) f.length b.length c' (b.length + 1)
      = some b := by
  rw [writeChunks_eq f f.length b c hc (Nat.le_refl _)]
  exact readChunks_eq _ _ _ c' hc' b (readAt_writeAt_end f b)

end Gkv
