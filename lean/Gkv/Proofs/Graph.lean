/-
Reachability on a finite call graph given as an edge list, decided by checking a certificate:
`closed edges S` says S is closed under "caller of a member"; then nothing outside S reaches a
member of S.  `closedF` is the same for "callee of a member".  Used over the regenerated tables
of Gkv/Gen (C09, C05, C18).
-/
namespace Gkv.Graph

inductive Reach (edges : List (Nat × Nat)) : Nat → Nat → Prop
  | refl (a : Nat) : Reach edges a a
  | step {a b c : Nat} : (a, b) ∈ edges → Reach edges b c → Reach edges a c

theorem Reach.carries {edges : List (Nat × Nat)} {P : Nat → Prop} (h : ∀ e ∈ edges, P e.1 → P e.2)
    {a t : Nat} (hr : Reach edges a t) (ha : P a) : P t := by
  induction hr with
  | refl _ => exact ha
  | step he _ ih => exact ih (h _ he ha)

/-- a set of nodes as a bit mask.  The closure checks below test two memberships per edge, and what
    they cost the kernel is `List.contains` walking a list of `Nat`; a bit of a literal it tests in
    one step. -/
def mask (S : List Nat) : Nat := S.foldl (fun m i => m ||| 1 <<< i) 0

theorem testBit_foldl (S : List Nat) (m i : Nat) :
    (S.foldl (fun m i => m ||| 1 <<< i) m).testBit i = (m.testBit i || S.contains i) := by
  induction S generalizing m with
  | nil => simp
  | cons j S ih =>
    rw [List.foldl_cons, ih, Nat.testBit_or, Nat.one_shiftLeft, Nat.testBit_two_pow, List.contains_cons,
      Bool.or_assoc]
    congr 2
    by_cases h : i = j
    · simp [h]
    · simp [h, Ne.symm h]

theorem testBit_mask (S : List Nat) (i : Nat) : (mask S).testBit i = S.contains i := by
  simp [mask, testBit_foldl]

def closed (edges : List (Nat × Nat)) (S : List Nat) : Bool :=
  edges.all (fun e => !(mask S).testBit e.2 || (mask S).testBit e.1)

theorem not_reach {edges : List (Nat × Nat)} {S : List Nat} (hc : closed edges S = true)
    {a t : Nat} (ht : t ∈ S) (ha : a ∉ S) : ¬ Reach edges a t := fun hr =>
  hr.carries (P := (· ∉ S))
    (fun e he h1 h2 => h1 (by simpa [testBit_mask, h2] using List.all_eq_true.mp hc e he)) ha ht

/-- index of a name in the table of names (`names.length` if absent) -/
def idx (names : List String) (n : String) : Nat := names.idxOf n

/-- `idx` with the byte counts compared before the names, for evaluation where most of the table
    shares a prefix with the name sought (`Collection.`, `Store.`): to tell two names apart the kernel
    walks their common prefix byte by byte, while a byte count costs nothing more once the literal has
    been converted to its bytes.  It does not pay where the names differ early, since a count needs the
    whole conversion and a first byte does not. -/
def idxL (names : List String) (n : String) : Nat :=
  names.findIdx (fun m => m.utf8ByteSize == n.utf8ByteSize && m == n)

theorem idxL_eq (names : List String) (n : String) : idxL names n = idx names n := by
  unfold idxL idx List.idxOf
  congr
  funext m
  exact Bool.and_eq_right_iff_imp.mpr fun h => by rw [eq_of_beq h, beq_self_eq_true]

/-- one round of the forward closure (callees) that the generator computes for each lock's set
    (`closureOf` in harness/cmd/extract); the theorems check its result with `closedF` and never
    run it -/
def growF (edges : List (Nat × Nat)) (S : List Nat) : List Nat :=
  edges.foldl (fun acc e => if acc.contains e.1 && !acc.contains e.2 then e.2 :: acc else acc) S

def closureF (edges : List (Nat × Nat)) : Nat → List Nat → List Nat
  | 0, S => S
  | n+1, S => closureF edges n (growF edges S)

def closedF (edges : List (Nat × Nat)) (S : List Nat) : Bool :=
  edges.all (fun e => !(mask S).testBit e.1 || (mask S).testBit e.2)

theorem reach_mem_of_closedF {edges : List (Nat × Nat)} {S : List Nat} (hc : closedF edges S = true)
    {a t : Nat} (hr : Reach edges a t) (ha : a ∈ S) : t ∈ S :=
  hr.carries (P := (· ∈ S))
    (fun e he h1 => by simpa [testBit_mask, h1] using List.all_eq_true.mp hc e he) ha

end Gkv.Graph
