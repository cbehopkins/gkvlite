/-
Proofs for `Gkv.Model.VersionsLeak`: leak freedom of the version / mark / reclaim protocol, and the leak it has.
`release` is the `dec` cascade after `dropHolder` and `mutate` is the cascade after `publish`, so each property is
shown once for the cascade and once for `publish`.  For the cascade: `dec_facts` (a dead version stays `Reclaimed`, by an
induction along `dec` that holds on every state) and `dec_freed`; `dec_linv` adds what the corollaries of
`Versions.dec_mark` say about the marks.
-/
import Gkv.Model.VersionsLeak
namespace Gkv.VersionsLeak
open Classical
open Gkv.Versions

/-- Version `u` has been reclaimed, as far as node `n` goes: if `n` carries `u`'s mark it is freed, and if `u` is the
    last version and `n` is in its tree then `n` is marked.  `LInv.dead_freed` and `LInv.last_marked` say together
    that every dead version has been reclaimed. -/
def Reclaimed (s : St) (u n : Nat) : Prop :=
  (s.mark n = some u → s.freed n) ∧ (u = s.N → s.tree u n → s.mark n ≠ none)

/-- `reclaim s v` reclaims `v`, and leaves reclaimed what was -/
theorem Reclaimed.reclaim {s : St} {v u n : Nat} (h : u ≠ v → Reclaimed s u n) :
    Reclaimed (reclaim s v (FT v)) u n := by
  by_cases e : u = v
  · subst e
    exact ⟨fun hm => Or.inr ⟨trivial, hm⟩, fun e ht => markAt_tree e ht⟩
  · refine ⟨fun hm => Or.inl ((h e).1 ((markAt_cases hm).resolve_right fun h' => e h'.2.2.2)),
      fun eN ht hm => (h e).2 eN ht ?_⟩
    exact Option.eq_none_iff_forall_ne_some.2 fun w hw => nomatch (markAt_keep hw).symm.trans hm

/-- "Dead versions have been reclaimed" goes through the cascade on every state, version by version: `kill` touches
    `v` alone, and the `reclaim` that follows it reclaims `v`. -/
theorem dec_facts (fuel : Nat) (s : St) (v u n : Nat) :
    (s.refs u = 0 → Reclaimed s u n) → (dec FT fuel s v).refs u = 0 → Reclaimed (dec FT fuel s v) u n := by
  fun_induction dec FT fuel s v with
  | case1 => exact id
  | case2 _ s v hgt =>
    intro h (h0 : (if u = v then s.refs v - 1 else s.refs u) = 0)
    split at h0
    · omega
    · exact h h0
  | case3 fuel s v _ s2 ih =>
    intro h (h0 : s2.refs u = 0)
    refine Reclaimed.reclaim fun e => ?_
    have hk : (kill s v).refs u = 0 → Reclaimed (kill s v) u n := fun h0 => h (by rwa [kill_refs, if_neg e] at h0)
    revert h0; unfold s2; split
    · exact ih hk
    · exact hk

/-- only marked nodes are freed -/
theorem dec_freed (fuel : Nat) (s : St) (v : Nat) {n : Nat} :
    (dec FT fuel s v).freed n → s.freed n ∨ ∃ u, (dec FT fuel s v).mark n = some u := by
  fun_induction dec FT fuel s v with
  | case1 | case2 => exact Or.inl
  | case3 _ s v _ s2 ih =>
    rintro (hf | ⟨_, hm⟩)
    · revert hf; unfold s2; split
      · exact fun hf => (ih hf).imp_right fun ⟨u, hu⟩ => ⟨u, markAt_keep hu⟩
      · exact Or.inl
    · exact Or.inr ⟨v, hm⟩

theorem publish_mark_some (s : St) (R Rn New T : Nat → Prop) (n : Nat) :
    (∃ u, s.mark n = some u) → ∃ w, (publish s R Rn New T).mark n = some w := by
  rw [publish_mark]
  split
  · exact fun _ => ⟨_, rfl⟩
  · split
    · exact fun _ => ⟨_, rfl⟩
    · exact id

theorem dec_linv (fuel : Nat) {s : St} (hl : LInv s) (v : Nat) : LInv (dec FT fuel s v) := by
  have rc : ∀ {u}, s.refs u = 0 → ∀ n, Reclaimed s u n := fun h0 n =>
    ⟨fun hm => hl.dead_freed n _ hm h0, fun e ht => hl.last_marked (e ▸ h0) n (e ▸ ht)⟩
  refine ⟨fun n u hm => ?_, fun n u hm hr => (dec_facts fuel s v u n (rc · n) hr).1 hm, fun hr n ht => ?_,
    fun n hf => (dec_freed fuel s v hf).elim
      (fun hf => (hl.freed_marked n hf).imp fun u hu => dec_mark_keep FT fuel s v hu) id⟩
  · rw [dec_N]
    rcases dec_mark_new FT fuel s v hm with h | ⟨_, e, _, _⟩
    · exact hl.mark_born n u h
    · exact Nat.le_of_eq e
  · rw [dec_N] at hr ht
    exact (dec_facts fuel s v s.N n (rc · n) hr).2 (dec_N ..).symm ht

/-- `rootCAS` keeps the leak invariant: both versions it touches are live afterwards -/
theorem publish_linv {s : St} (h : HInv s) (hl : LInv s) {R Rn New T : Nat → Prop}
    (m : MutPre s R Rn New T) : LInv (publish s R Rn New T) := by
  have hlive : s.refs s.N > 0 := by have := h.acct s.N; have := m.holder; omega
  have dead : ∀ {u}, (publish s R Rn New T).refs u = 0 → u ≠ s.N ∧ u ≠ s.N + 1 ∧ s.refs u = 0 :=
    fun {u} hr => by
      rw [publish_refs] at hr; split at hr
      · omega
      · exact ⟨fun e => by rw [e] at hr; omega, by assumption, hr⟩
  refine ⟨fun n u hm => ?_, fun n u hm hr => ?_, fun hr => absurd rfl (dead hr).2.1,
    fun n hf => publish_mark_some s R Rn New T n (hl.freed_marked n hf)⟩
  · rcases publish_mark_cases hm with e | e | hm'
    · exact e ▸ Nat.le_succ _
    · exact Nat.le_of_eq e
    · exact Nat.le_succ_of_le (hl.mark_born n u hm')
  · have := dead hr
    rcases publish_mark_cases hm with e | e | hm'
    · exact absurd e this.1
    · exact absurd e this.2.1
    · exact hl.dead_freed n u hm' this.2.2

theorem release_linv {s : St} (hl : LInv s) (v : Nat) : LInv (release FT s v) :=
  dec_linv _ (s := dropHolder s v) ⟨hl.1, hl.2, hl.3, hl.4⟩ v

theorem mutate_linv {s : St} (h : HInv s) (hl : LInv s) {R Rn New T : Nat → Prop}
    (m : MutPre s R Rn New T) : LInv (mutate FT s R Rn New T) :=
  dec_linv _ (publish_linv h hl m) _

theorem acquire_linv {s : St} (hl : LInv s) (v : Nat) : LInv (acquire s v) := by
  -- no version dies of an `acquire`
  have hz : ∀ u, (acquire s v).refs u = 0 → s.refs u = 0 := fun u hu => by
    have hu' : (if u = v then s.refs v + 1 else s.refs u) = 0 := hu
    split at hu'
    · omega
    · exact hu'
  exact ⟨hl.mark_born, fun n u hm hr => hl.dead_freed n u hm (hz u hr),
    fun hr n ht => hl.last_marked (hz _ hr) n ht, hl.freed_marked⟩

theorem load_linv {s : St} (h : HInv s) (hl : LInv s) (p x : Nat) (g : GLive s p) :
    LInv (load s p x) := by
  -- the loader holds a live version, so the last version is alive (`live_up`) and `last_marked` asks nothing
  obtain ⟨w, hw, htw⟩ := g
  have := live_up h (s.N - w) w hw (by have := tree_le_N h htw; omega)
  rw [Nat.add_sub_cancel' (tree_le_N h htw)] at this
  exact ⟨hl.mark_born, hl.dead_freed, fun hr => absurd hr (Nat.ne_of_gt this), hl.freed_marked⟩

/-- forgetting the guard: a guarded run is a run of Versions.lean (so `HInv` and `safe_reachable` apply) -/
theorem reachG_reach {G : St → Nat → Prop} {s : St} (hr : ReachG G s) : Reach FT s := by
  induction hr with
  | init => exact Reach.init 0
  | acquire _ hv ih => exact Reach.acquire ih hv
  | release _ hv ih => exact Reach.release ih hv
  | load _ _ hm hf ih => exact Reach.load ih hm hf
  | mutate _ m ih => exact Reach.mutate ih m

theorem reachG_hinv {G : St → Nat → Prop} {s : St} (hr : ReachG G s) : HInv s :=
  reach_inv FT s (reachG_reach hr)

theorem reachG_linv {G : St → Nat → Prop} (hG : ∀ s p, G s p → GLive s p) {s : St}
    (hr : ReachG G s) : LInv s := by
  induction hr with
  | init => exact ⟨nofun, nofun, fun h => absurd h (by decide), nofun⟩
  | acquire _ _ ih => exact acquire_linv ih _
  | release _ _ ih => exact release_linv ih _
  | load hs g _ _ ih => exact load_linv (reachG_hinv hs) ih _ _ (hG _ _ g)
  | mutate hs m ih => exact mutate_linv (reachG_hinv hs) ih m

theorem dec_shared (fuel : Nat) {s : St} (h : Shared s) (v : Nat) : Shared (dec FT fuel s v) := by
  intro u n ht hm
  rw [dec_tree] at ht; rw [dec_N, dec_tree]
  exact h u n ht (mark_none_of_dec FT fuel s v hm)

theorem publish_shared {s : St} (h : Shared s) (R Rn New T : Nat → Prop) :
    Shared (publish s R Rn New T) := by
  intro u n ht hm
  have hm' := publish_mark_none.1 hm
  by_cases e : u = s.N + 1
  · rw [e] at ht; exact ht
  · exact publish_tree_new.2 (Or.inl
      ⟨h u n ((publish_tree_old e).1 ht) hm'.2.2, hm'.1, fun hr => hm'.2.1 (Or.inl hr)⟩)

theorem reachG_shared {G : St → Nat → Prop} (hG : ∀ s p, G s p → s.mark p = none) {s : St}
    (hr : ReachG G s) : Shared s := by
  induction hr with
  | init => intro u n ht; exact ht.elim
  | acquire _ _ ih => exact ih
  | release _ _ ih => exact dec_shared _ (s := dropHolder _ _) ih _
  | @load s p x _ g _ _ ih =>
    intro u n ht hm
    rcases ht with ht | ⟨e, htp⟩
    · exact Or.inl (ih u n ht hm)
    · exact Or.inr ⟨e, ih u p htp (hG _ _ g)⟩
  | mutate _ _ ih => exact dec_shared _ (publish_shared ih _ _ _ _) _

/-- EVERY VERSION DIES: once all handles, snapshots and pins are gone (`hp = 0` everywhere) every reference
    count of the lineage is zero — no version is kept alive by a chain alone. -/
theorem no_holders_no_refs {s : St} (h : HInv s) (h0 : ∀ v, s.hp v = 0) : ∀ v, s.refs v = 0 := by
  intro v
  induction v with
  | zero => exact (h.acct 0).trans (h0 0)
  | succ v ih =>
    have hac := h.acct (v+1)
    rw [chainIn_succ, h0 (v+1)] at hac
    split at hac
    next hc => have := h.chained_live v hc; omega
    next => exact hac

/-- MARKED NODES DO NOT LEAK (includes the temporaries `T`, which are in no tree): in every reachable state a node
    that carries the mark of a dead version is on the free list. -/
theorem marked_dead_freed {G : St → Nat → Prop} (hG : ∀ s p, G s p → GLive s p) {s : St}
    (hr : ReachG G s) : ∀ n v, s.mark n = some v → s.refs v = 0 → s.freed n :=
  (reachG_linv hG hr).dead_freed

/-- THE LAST VERSION DOES NOT LEAK (what `markAllUnlocked` is for): once the never-superseded version N of a
    collection is dead, every node of its tree is on the free list. -/
theorem last_version_freed {G : St → Nat → Prop} (hG : ∀ s p, G s p → GLive s p) {s : St}
    (hr : ReachG G s) (hN : s.refs s.N = 0) : ∀ n, s.tree s.N n → s.freed n := fun n ht => by
  -- marked by `last_marked`, with the mark of the last version by `mark_le` and `mark_born`, freed by `dead_freed`
  have hl := reachG_linv hG hr
  obtain ⟨v, hm⟩ := Option.ne_none_iff_exists'.1 (hl.last_marked hN n ht)
  have : v = s.N := Nat.le_antisymm (hl.mark_born n v hm) ((reachG_hinv hr).mark_le n v _ hm ht)
  exact hl.dead_freed n v hm (this ▸ hN)

/-- orphans are never freed: nothing but a mark puts a node on the free list -/
theorem orphan_not_freed {G : St → Nat → Prop} (hG : ∀ s p, G s p → GLive s p) {s : St}
    (hr : ReachG G s) (n : Nat) (ho : orphan s n) : ¬ s.freed n := by
  intro hf
  obtain ⟨v, hv⟩ := (reachG_linv hG hr).freed_marked n hf
  rw [ho.2.1] at hv; cases hv

/-- with the code's loads: after all closes the allocated nodes are exactly the orphans -/
theorem all_closed_alloc_iff_orphan {G : St → Nat → Prop} (hG : ∀ s p, G s p → GLive s p) {s : St}
    (hr : ReachG G s) (h0 : ∀ v, s.refs v = 0) : ∀ n, alloc s n ↔ orphan s n := by
  refine fun n => ⟨fun ⟨hk, hf⟩ => ?_, fun ho => ⟨Or.inl ho.1, orphan_not_freed hG hr n ho⟩⟩
  -- an allocated node carries no mark (it would be a dead version's), so it is in a tree, and not in the last one
  have hl := reachG_linv hG hr
  have hm : s.mark n = none := Option.eq_none_iff_forall_ne_some.2 fun u hu => hf (hl.dead_freed n u hu (h0 u))
  exact ⟨hk.resolve_right (fun ⟨u, hu⟩ => nomatch hm ▸ hu), hm, fun ht => hl.last_marked (h0 _) n ht hm⟩

/-- ALL CLOSED, STRONGEST TRUE FORM for the code's loads (`GLive`): once every reference count is zero, every node
    that was ever in a tree is on the free list — or it is an orphan: never marked and not in the last tree
    (it was loaded under a node that had already been replaced; see `leak_example`). -/
theorem all_closed_freed_or_orphan {G : St → Nat → Prop} (hG : ∀ s p, G s p → GLive s p) {s : St}
    (hr : ReachG G s) (h0 : ∀ v, s.refs v = 0) :
    ∀ n, (∃ v, s.tree v n) → s.freed n ∨ orphan s n := fun n hex =>
  Decidable.or_iff_not_imp_left.2 fun hf => (all_closed_alloc_iff_orphan hG hr h0 n).1 ⟨Or.inl hex, hf⟩

theorem no_orphan {s : St} (hr : ReachG GStrict s) (n : Nat) (ho : orphan s n) : False := by
  obtain ⟨v, hv⟩ := ho.1
  exact ho.2.2 (reachG_shared (fun _ _ g => g.2) hr v n hv ho.2.1)

/-- LEAK FREEDOM (`all_closed_all_freed`) when no node is loaded under an already replaced node (`GStrict`):
    once every reference count is zero, every node that was ever in a tree is on the free list. -/
theorem all_closed_all_freed {s : St} (hr : ReachG GStrict s) (h0 : ∀ v, s.refs v = 0) :
    ∀ n, (∃ v, s.tree v n) → s.freed n := fun n hex =>
  (all_closed_freed_or_orphan (fun _ _ g => g.1) hr h0 n hex).elim id fun ho => (no_orphan hr n ho).elim

/-- the same in terms of `alloc`: after all closes nothing handed out for this lineage is still allocated -/
theorem all_closed_nothing_allocated {s : St} (hr : ReachG GStrict s) (h0 : ∀ v, s.refs v = 0) :
    ∀ n, ¬ alloc s n := fun n ha =>
  no_orphan hr n ((all_closed_alloc_iff_orphan (fun _ _ g => g.1) hr h0 n).1 ha)

/-! ### `known` really is "was ever handed out": no event removes a node from a tree or erases a mark -/

theorem known_dec (fuel : Nat) (s : St) (v n : Nat) (h : known s n) : known (dec FT fuel s v) n := by
  rcases h with ⟨w, hw⟩ | ⟨w, hw⟩
  · exact Or.inl ⟨w, by rw [dec_tree]; exact hw⟩
  · exact Or.inr ⟨w, dec_mark_keep FT fuel s v hw⟩

theorem known_publish (s : St) (R Rn New T : Nat → Prop) (n : Nat) (hab : ∀ w, w > s.N → ¬ s.tree w n)
    (h : known s n) : known (publish s R Rn New T) n := by
  rcases h with ⟨w, hw⟩ | h
  · exact Or.inl ⟨w, (publish_tree_old fun e => hab w (by omega) hw).2 hw⟩
  · exact Or.inr (publish_mark_some s R Rn New T n h)

theorem known_acquire (s : St) (v n : Nat) (h : known s n) : known (acquire s v) n := h

theorem known_load (s : St) (p x n : Nat) (h : known s n) : known (load s p x) n := by
  rcases h with ⟨v, hv⟩ | h
  · exact Or.inl ⟨v, Or.inl hv⟩
  · exact Or.inr h

theorem known_release (s : St) (v n : Nat) (h : known s n) : known (release FT s v) n :=
  known_dec _ (dropHolder s v) v n h

theorem known_mutate (s : St) (R Rn New T : Nat → Prop) (n : Nat) (hab : ∀ w, w > s.N → ¬ s.tree w n)
    (h : known s n) : known (mutate FT s R Rn New T) n :=
  known_dec _ _ _ n (known_publish s R Rn New T n hab h)

theorem dec_mark_none (fuel : Nat) (s : St) (v n : Nat) (hm : s.mark n = none) (ht : ¬ s.tree s.N n) :
    (dec FT fuel s v).mark n = none := by
  cases h : (dec FT fuel s v).mark n with
  | none => rfl
  | some u =>
    rcases dec_mark_new FT fuel s v h with h1 | ⟨_, _, _, h2⟩
    · rw [hm] at h1; cases h1
    · exact absurd h2 ht

/-- an orphan stays one whatever versions die: no later `release` can free it (`orphan_not_freed`) -/
theorem orphan_dec (fuel : Nat) (s : St) (v n : Nat) (h : orphan s n) : orphan (dec FT fuel s v) n := by
  unfold orphan; rw [dec_tree, dec_N]
  exact ⟨h.1, dec_mark_none fuel s v n h.2.1 h.2.2, h.2.2⟩

theorem orphan_release (s : St) (v n : Nat) (h : orphan s n) : orphan (release FT s v) n :=
  orphan_dec _ (dropHolder s v) v n h

theorem mutate_mark_none (s : St) (R Rn New T : Nat → Prop) (n : Nat) (hm : s.mark n = none)
    (hR : ¬ R n) (hRn : ¬ Rn n) (hT : ¬ T n) (ht : ¬ (publish s R Rn New T).tree (s.N + 1) n) :
    (mutate FT s R Rn New T).mark n = none :=
  dec_mark_none _ _ _ n (publish_mark_none.2 ⟨hR, not_or.2 ⟨hRn, hT⟩, hm⟩) ht

def nobody : Nat → Prop := fun _ => False
def only (a : Nat) : Nat → Prop := fun n => n = a

/-- The leaking history (node 0 = `p`, node 1 = `x`):
    1. `mutate ∅ ∅ {p} ∅`   SetItem: version 1 with tree {p}
    2. `acquire 1`           a snapshot / reader pins version 1
    3. `mutate {p} ∅ ∅ ∅`   Delete (or SetItem replacing p): p is marked with version 1's mark, version 2 published,
                             version 1 stays alive (chained) because of the snapshot
    4. `load p x`            the snapshot's reader lazily loads the child x of the replaced node p
    5. `release 1`           the snapshot is closed: version 1 dies, p (marked 1) is freed, x is not marked
    6. `release 2`           the collection is closed: version 2 dies and marks its own tree, which does not contain x -/
noncomputable def L1 : St := mutate FT init0 nobody nobody (only 0) nobody
noncomputable def L2 : St := acquire L1 1
noncomputable def L3 : St := mutate FT L2 (only 0) nobody nobody nobody
noncomputable def L4 : St := load L3 0 1
noncomputable def L5 : St := release FT L4 1
noncomputable def L6 : St := release FT L5 2

theorem L1_pre : MutPre init0 nobody nobody (only 0) nobody :=
  ⟨Nat.one_pos, fun _ h => h.elim, fun _ h => h.elim,
   fun _ _ => ⟨fun _ h => h, rfl, fun h => h, fun h => h, fun h => h, fun h => h⟩, fun _ h => h.elim⟩

theorem L1_N : L1.N = 1 := dec_N ..
theorem L1_tree (w n : Nat) : L1.tree w n ↔ w = 1 ∧ n = 0 := by
  rw [L1, mutate, dec_tree]
  show (if w = 1 then (False ∧ ¬ False ∧ ¬ False) ∨ n = 0 else False) ↔ _
  split
  next e => simp [e]
  next e => simp [e]
theorem L1_mark1 : L1.mark 1 = none :=
  mutate_mark_none _ _ _ _ _ 1 rfl id id id fun h =>
    (publish_tree_new.1 h).elim (fun h => h.1) nofun

theorem L2_pre : MutPre L2 (only 0) nobody nobody nobody := by
  refine ⟨?_, fun n hn => ?_, fun _ h => h.elim, fun _ h => h.elim, fun _ h => h.elim⟩
  · show (if L1.N = 1 then L1.hp 1 + 1 else L1.hp L1.N) > 0
    rw [if_pos L1_N]; exact Nat.succ_pos _
  · show L1.tree L1.N n
    rw [L1_N, L1_tree]; exact ⟨rfl, hn⟩

theorem L3_N : L3.N = 2 := by rw [L3, mutate, dec_N, publish_N]; show L1.N + 1 = 2; rw [L1_N]
theorem L3_tree (w n : Nat) : L3.tree w n ↔ w = 1 ∧ n = 0 := by
  rw [L3, mutate, dec_tree]
  by_cases hw : w = L2.N + 1
  · have e : w = 2 := by rw [hw]; show L1.N + 1 = 2; rw [L1_N]
    rw [hw, publish_tree_new]
    show (L1.tree L1.N n ∧ ¬ n = 0 ∧ ¬ False) ∨ False ↔ _
    rw [L1_N, L1_tree]
    exact ⟨fun h => h.elim (fun h => absurd h.1.2 h.2.1) False.elim, fun h => by omega⟩
  · rw [publish_tree_old hw]; exact L1_tree w n
theorem L3_mark1 : L3.mark 1 = none := by
  refine mutate_mark_none _ _ _ _ _ 1 L1_mark1 Nat.one_ne_zero id id fun h => ?_
  have : L3.tree 2 1 := by rw [L3, mutate, dec_tree]; exact h
  exact absurd ((L3_tree 2 1).1 this).1 (by decide)

theorem L3_reach : ReachG GLive L3 :=
  .mutate (.acquire (.mutate .init L1_pre) (by decide)) L2_pre

theorem L4_reach : ReachG GLive L4 := by
  -- the reader holds version 1, whose tree contains p
  refine .load L3_reach ⟨1, by decide, (L3_tree 1 0).2 ⟨rfl, rfl⟩⟩ L3_mark1 fun hf => ?_
  obtain ⟨v, hv⟩ := (reachG_linv (fun _ _ g => g) L3_reach).freed_marked 1 hf
  rw [L3_mark1] at hv; cases hv

/-- `x` is an orphan as soon as it is loaded: `p`'s version is not the current one -/
theorem L4_orphan : orphan L4 1 := by
  refine ⟨⟨1, Or.inr ⟨rfl, (L3_tree 1 0).2 ⟨rfl, rfl⟩⟩⟩, L3_mark1, ?_⟩
  show ¬ (L3.tree L3.N 1 ∨ 1 = 1 ∧ L3.tree L3.N 0)
  rw [L3_N, L3_tree, L3_tree]; simp

theorem L6_reach : ReachG GLive L6 := .release (.release L4_reach (by decide)) (by decide)

/-- the counts of the concrete history are evaluated; above the last version there are no holders -/
theorem L6_hp : ∀ w, L6.hp w = 0
  | 0 | 1 | 2 => by decide
  | w+3 => ((reachG_hinv L6_reach).above (w+3) (by rw [show L6.N = 2 by decide]; omega)).1

/-- THE LEAK (`all_closed_all_freed` is false for the code's loads, even when a dying version frees every node
    carrying its mark): after the six events above every reference count is zero, node x = 1 is in the tree of
    version 1, and x is not on the free list — and no later event can free it (`orphan_not_freed`). -/
theorem leak_example :
    ReachG GLive L6 ∧ (∀ v, L6.refs v = 0) ∧ L6.tree 1 1 ∧ ¬ L6.freed 1 ∧ orphan L6 1 :=
  have ho : orphan L6 1 := orphan_release L5 2 1 (orphan_release L4 1 1 L4_orphan)
  ⟨L6_reach, no_holders_no_refs (reachG_hinv L6_reach) L6_hp,
    by rw [L6, release_tree, L5, release_tree]; exact Or.inr ⟨rfl, (L3_tree 1 0).2 ⟨rfl, rfl⟩⟩,
    orphan_not_freed (fun _ _ g => g) L6_reach 1 ho, ho⟩

/-- `all_closed_all_freed` as stated for the unguarded system of Versions.lean is FALSE, for `F := FT`. -/
theorem all_closed_all_freed_false :
    ¬ (∀ s, Reach FT s → (∀ v, s.refs v = 0) → ∀ n, (∃ v, s.tree v n) → s.freed n) := by
  intro h
  have l := leak_example
  exact l.2.2.2.1 (h L6 (reachG_reach l.1) l.2.1 1 ⟨1, l.2.2.1⟩)

end Gkv.VersionsLeak

#print axioms Gkv.VersionsLeak.dec_facts
#print axioms Gkv.VersionsLeak.no_holders_no_refs
#print axioms Gkv.VersionsLeak.marked_dead_freed
#print axioms Gkv.VersionsLeak.last_version_freed
#print axioms Gkv.VersionsLeak.all_closed_freed_or_orphan
#print axioms Gkv.VersionsLeak.orphan_not_freed
#print axioms Gkv.VersionsLeak.all_closed_all_freed
#print axioms Gkv.VersionsLeak.all_closed_nothing_allocated
#print axioms Gkv.VersionsLeak.all_closed_alloc_iff_orphan
#print axioms Gkv.VersionsLeak.known_mutate
#print axioms Gkv.VersionsLeak.leak_example
#print axioms Gkv.VersionsLeak.all_closed_all_freed_false

/-
Model vs. code

`all_closed_all_freed` fails for the unguarded system of Versions.lean (`all_closed_all_freed_false`), also when loads
happen under live parents only (`GLive`, which is all the code guarantees by itself) and even with `F := FT`.  `leak_example` is the shortest leaking history (2 mutations
are needed to have a replaced node, 1 acquire to keep its version alive, 1 load, 2 releases to close everything).

The Go code path of `load p x` with `mark p ≠ none` — defect F11 of the pinned tree (`corpus/F11-orphan-leak.ops`),
repaired in /repo (commit "fix: split loads the children of the found node before copying their slots"):
  * treap.go `split`, case `c == 0`, returned COPIES of `nNode.left` / `nNode.right` (`mkNodeLoc(nil).Copy(..)`) without
    loading them.  If a child was not loaded yet (`loc` set, `node == nil`), `join` (Delete) / `union` (SetItem on an
    existing key whose new priority is higher than the stored one) loaded it INTO THE COPY, so the new version got its own
    child node and `M.left.node` / `M.right.node` of the replaced node M stayed nil.  M is marked (Delete: new
    version's mark via reclaimLater[2]; SetItem: `markReclaimable(middleNode)`).
  * A reader that still holds the old version (snapshot, pinned visit/GetItem) descends through M and
    `nodeLoc.read` loads a private child x into `M.left.node` (`populateNode`, item via `ItemAlloc`).
  * x is unmarked and in no newer tree.  When M's version dies `reclaimNodesUnlocked` frees M and stops at x
    (`n.next != reclaimMark`); `markAllUnlocked` is not run because the version is `superseded`.  x (and all that the
    reader loaded below it) is never passed to `freeNodeUnlocked`: never on the free list, its item never gets
    `ItemDecRef`.
  * On the pinned tree: 64 items, Flush, re-open with counting callbacks, `snap := s.Snapshot()`, `Delete(root key)`,
    `GetItem` of every key through `snap` (caller releases what it gets), `snap.Close()`, `s.Close()` left
    63 references outstanding; the same reads through the main store: 0.
The repaired `split` reads both children before it copies their slots, as the other arms do through `numInfo`, so a
copied slot is loaded and its node is shared by both versions.  That the code's loads then satisfy `GStrict` is not
proved: what stands for it is the regenerated obligation `Props/C15.slots_loaded_before_copied` and the `refbalance`
predicate of the streams.

What holds (all proved above, for `F := FT`, loads under live parents = `GLive`):
  * `no_holders_no_refs`      all handles/pins gone ⇒ every reference count is zero (no version kept alive by a chain);
  * `marked_dead_freed`       every node carrying the mark of a dead version is freed (this covers `mutate`'s `R`, `Rn`
                              and the temporaries `T`);
  * `last_version_freed`      the whole tree of the last version of a closed collection is freed (`markAllUnlocked`);
  * `all_closed_freed_or_orphan`, `all_closed_alloc_iff_orphan`
                              after all closes the allocated nodes are EXACTLY the orphans (loaded under a replaced
                              node), and orphans are never freed (`orphan_not_freed`);
  * `all_closed_all_freed`    full leak freedom when no node is loaded under an already marked node (`GStrict`).

Model vs. code, further remarks:
  * `F`: the code frees the nodes reached by `reclaimNodesUnlocked` from the version's root and `reclaimLater`,
    following nodes that carry the mark.  `FT` frees every node carrying the mark.  They agree when the marked
    nodes of a version are connected to its root / reclaimLater through marked nodes — true for what
    `union/split/join` + `reclaimMarkUpdate` mark (path copying marks a root-closed set; `reclaimMarkUpdate` moves
    whole marked chains below `left/right/middle`), but that is a treap-shape argument not contained in model H.
  * `Versions.load` has no guard at all (it even allows loading under a freed node of a dead version, which gives
    a 4-event "leak" that no code path has); the theorems here use the guard `GLive`.
  * A node of the model's `T` that was never marked (SetItem's new node when it becomes part of the new tree) is in
    `New`, not in `T`; `reclaimLater[0]` then points into the live tree and `reclaimNodesUnlocked` skips it because
    it is unmarked — consistent with the model.
-/