/-
What the store-level invariants (`CollsOK.lean`, `MachineR.lean`) need of `setItem` and `delete`.
They keep `Tree.Coherent f bound`: every node they build is `Tree.mk l i r q` with `(i, q)` taken
from a node of an input tree (or the new item with `q = none`), and unchanged subtrees are reused
whole (`Tree.Structural`).  And `AggOK` with bounds on the whole tree gives `SizesOK`.
-/
import Gkv.Proofs.Split
import Gkv.Proofs.FlushCoherent

namespace Gkv
namespace Tree

theorem structural_coherent (f : Bytes) (bound : Nat) :
    Structural (Coherent f bound) fun i q => ∀ il, q = some il → ItemAt f bound i il :=
  ⟨trivial, fun h => ⟨h.1, h.2.2.1, h.2.1⟩, fun hl hi hr => .node_none hl hr hi⟩

section coh
variable (cmp : Bytes → Bytes → Ordering) (f : Bytes) (bound : Nat)

/-- the new singleton has no file location at all -/
theorem setItem_coherent {t : Tree} (h : t.Coherent f bound) (i : Item) :
    (setItem cmp t i).Coherent f bound :=
  (structural_coherent f bound).setItem cmp h fun _ hq => by cases hq

theorem delete_coherent {t : Tree} (h : t.Coherent f bound) (k : Bytes) :
    (delete cmp t k).1.Coherent f bound :=
  (structural_coherent f bound).delete cmp h k

end coh

theorem outer_lt {x y z N : Nat} (h : x + y + z < N) : x < N ∧ z < N := by omega

theorem sizesOK_of_agg : ∀ {t : Tree}, AggOK t → All ItemOK t → t.size < 2^64 →
    (t.toList.map Item.nbytes).sum < 2^64 → t.SizesOK
  | nil, _, _, _, _ => trivial
  | node l i a b r p q, ⟨hl, hr, ha, hb⟩, ⟨al, ai, ar⟩, hs, hby => by
    -- the aggregates of a node are those of the whole tree; those of its subtrees are smaller
    have hs' : l.size + 1 + r.size < 2^64 := hs
    have hby' : (l.toList.map Item.nbytes).sum + i.nbytes + (r.toList.map Item.nbytes).sum < 2^64 := by
      simpa only [toList, List.map_append, List.map_cons, List.sum_append, List.sum_cons,
        Nat.add_assoc] using hby
    exact ⟨ai, ha ▸ hs', hb ▸ hby', sizesOK_of_agg hl al (outer_lt hs').1 (outer_lt hby').1,
      sizesOK_of_agg hr ar (outer_lt hs').2 (outer_lt hby').2⟩

end Tree
end Gkv
