/-
The history-level refinement for the store-level machine with FlushRevert (`Model/MachineR.lean`):
C08 for histories in which, at the moment of each revert, no key/value bytes forge a root record
(`RHistOK`; without that hypothesis the statement is false, `Props/C08.lean`, finding F17).  The
machine without FlushRevert is the special case of histories that contain no revert
(`Proofs/Machine.lean`: the store-level clause of C01 — "interleaved with Flush and re-opening" —,
C02 and C12; there the hypothesis about forged records is vacuous).

"FlushRevert returns the store to exactly the state of the Flush before the most recent one — an
empty store if there is none — truncating the file to end at that flush's root record so that
re-opening agrees; repeated reverts walk back one Flush at a time; new flushes after a revert are
durable as usual", for all histories with any number of flushes, re-opens and consecutive
reverts, including reverting past the first flush.

The durable side of the specification is a stack `flushed` (most recent first).  Next to the
model run we compute the ghost stack `flushEnds` of file offsets: `flush` pushes the store's
`size` right after the flush, `revert` pops.  The invariant `RInv` says: the collections are in
`CollsOK` and show `cur`; the i-th end `e` on the stack is an `EntryOK` for `flushed[i]`
(`StackOK`); the ends are strictly decreasing and the top one is the length of the file.
The in-memory operations replace the collection list and leave the file, hence the stack, alone
(`RInv.upd`); `flush` pushes the entry of `flush_entry`, the older entries survive because each
depends only on the bytes below its end; `reopen` reads the top entry (`RInv.opens`); `revert`
finds the second entry because no other offset ends a root record (`NoForgedRoots`), and truncates.
-/
import Gkv.Model.MachineR
import Gkv.Proofs.CollsOK

namespace Gkv.MachineR
open Gkv Gkv.Machine

/-- the ghost stack after `op` from state `s`: a flush pushes the `size` it leaves, a revert pops -/
def nextEnds (cmpOf : Bytes → CmpKind) (s : SState) (ends : List Nat) : ROp → List Nat
  | .base .flush => (sstep cmpOf s .flush).size :: ends
  | .revert => ends.drop 1
  | _ => ends

def endsStep (cmpOf : Bytes → CmpKind) (x : SState × List Nat) (op : ROp) : SState × List Nat :=
  (rstep cmpOf x.1 op, nextEnds cmpOf x.1 x.2 op)

/-- `rrun` with the ghost stack of ends carried along (`grun_fst`: its first component is `rrun`) -/
def grun (cmpOf : Bytes → CmpKind) (ops : List ROp) : SState × List Nat :=
  ops.foldl (endsStep cmpOf) (sinit, [])

/-- the `size` the store had right after each flush of `ops` that has not been reverted, most
    recent first -/
def flushEnds (cmpOf : Bytes → CmpKind) (ops : List ROp) : List Nat := (grun cmpOf ops).2

theorem grun_fst (cmpOf : Bytes → CmpKind) (ops : List ROp) : (grun cmpOf ops).1 = rrun cmpOf ops :=
  (List.foldl_hom Prod.fst (init := (sinit, [])) fun _ _ => rfl).symm

theorem rrun_snoc (cmpOf : Bytes → CmpKind) (ops : List ROp) (op : ROp) :
    rrun cmpOf (ops ++ [op]) = rstep cmpOf (rrun cmpOf ops) op := by
  simp only [rrun, List.foldl_append, List.foldl_cons, List.foldl_nil]

theorem rspecRun_snoc (cmpOf : Bytes → CmpKind) (ops : List ROp) (op : ROp) :
    rspecRun cmpOf (ops ++ [op]) = rspecStep cmpOf (rspecRun cmpOf ops) op := by
  simp only [rspecRun, List.foldl_append, List.foldl_cons, List.foldl_nil]

theorem flushEnds_snoc (cmpOf : Bytes → CmpKind) (ops : List ROp) (op : ROp) :
    flushEnds cmpOf (ops ++ [op]) = nextEnds cmpOf (rrun cmpOf ops) (flushEnds cmpOf ops) op := by
  rw [← grun_fst]
  unfold flushEnds grun
  rw [List.foldl_append]
  rfl

/-- the two stacks match entry by entry: the i-th end is where a root record for the i-th flushed
    state ends (`EntryOK`); different lengths are excluded -/
def StackOK (cmpOf : Bytes → CmpKind) (f : Bytes) (n : Nat) : List Nat → List SpecStore → Prop
  | [], [] => True
  | e :: es, fl :: fls => (∃ dc, EntryOK cmpOf f n e dc fl) ∧ StackOK cmpOf f n es fls
  | _, _ => False

theorem StackOK.imp {cmpOf : Bytes → CmpKind} {f g : Bytes} {n m : Nat} :
    ∀ {ends : List Nat} {fls : List SpecStore}, StackOK cmpOf f n ends fls →
      (∀ e ∈ ends, ∀ dc fl, EntryOK cmpOf f n e dc fl → EntryOK cmpOf g m e dc fl) →
      StackOK cmpOf g m ends fls
  | [], [], _, _ => trivial
  | e :: _, fl :: _, ⟨⟨dc, h1⟩, h2⟩, H =>
    ⟨⟨dc, H e (List.mem_cons_self ..) dc fl h1⟩,
      h2.imp fun e' he' => H e' (List.mem_cons_of_mem _ he')⟩
  | [], _ :: _, h, _ => by simp only [StackOK] at h
  | _ :: _, [], h, _ => by simp only [StackOK] at h

theorem StackOK.mono {cmpOf : Bytes → CmpKind} {f : Bytes} {n m : Nat} {ends : List Nat}
    {fls : List SpecStore} (h : StackOK cmpOf f n ends fls) (hnm : n ≤ m) :
    StackOK cmpOf f m ends fls :=
  h.imp fun _ _ _ _ hE => hE.mono hnm

theorem StackOK.of_nil {cmpOf : Bytes → CmpKind} {f : Bytes} {n : Nat} :
    ∀ {fls : List SpecStore}, StackOK cmpOf f n [] fls → fls = []
  | [], _ => rfl
  | _ :: _, h => by simp only [StackOK] at h

theorem StackOK.of_cons {cmpOf : Bytes → CmpKind} {f : Bytes} {n e : Nat} {es : List Nat} :
    ∀ {fls : List SpecStore}, StackOK cmpOf f n (e :: es) fls →
      ∃ dc fl fls', fls = fl :: fls' ∧ EntryOK cmpOf f n e dc fl ∧ StackOK cmpOf f n es fls'
  | [], h => by simp only [StackOK] at h
  | fl :: fls, ⟨⟨dc, h1⟩, h2⟩ => ⟨dc, fl, fls, rfl, h1, h2⟩

theorem StackOK.length {cmpOf : Bytes → CmpKind} {f : Bytes} {n : Nat} :
    ∀ {ends : List Nat} {fls : List SpecStore}, StackOK cmpOf f n ends fls →
      ends.length = fls.length
  | [], [], _ => rfl
  | _ :: _, _ :: _, ⟨_, h2⟩ => by
    simp only [List.length_cons, StackOK.length h2]
  | [], _ :: _, h => by simp only [StackOK] at h
  | _ :: _, [], h => by simp only [StackOK] at h

theorem StackOK.mem {cmpOf : Bytes → CmpKind} {f : Bytes} {n : Nat} :
    ∀ {ends : List Nat} {fls : List SpecStore}, StackOK cmpOf f n ends fls →
      ∀ e ∈ ends, e ≤ f.length ∧ (rootAt f e).isSome
  | [], _, _, e, he => by cases he
  | e0 :: es, fl :: fls, ⟨⟨dc, h1⟩, h2⟩, e, he => by
    rcases List.mem_cons.mp he with he | he
    · subst he
      exact ⟨h1.le, by rw [h1.root]; rfl⟩
    · exact StackOK.mem h2 e he
  | _ :: _, [], h, _, _ => by simp only [StackOK] at h

/-- the file ends exactly at the most recent end; with nothing flushed it is empty -/
def TopOK (f : Bytes) : List Nat → Prop
  | [] => f = []
  | e :: _ => e = f.length

/-- `s`: the store machine; `ends`: the ghost stack of `flushEnds`; `sp`: the specification with its
    stack of flushed states.  `n` bounds the number of operations so far, hence the items and
    bytes of every tree (`TreeOK`); the step lemmas go from `n` to `n+1` for every operation, also
    those that add nothing, so that `n` is the length of the history (`rinv_take`). -/
structure RInv (cmpOf : Bytes → CmpKind) (n : Nat) (s : SState) (ends : List Nat) (sp : RSpec) :
    Prop where
  size : s.size = s.file.length
  colls : CollsOK cmpOf s.file n s.colls
  cur : absColls s.colls = sp.cur
  stack : StackOK cmpOf s.file n ends sp.flushed
  dec : ends.Pairwise (· > ·)
  top : TopOK s.file ends

/-- the empty store on the empty file, nothing flushed: where a history starts, and where a revert
    with nothing older left ends -/
theorem rinv_init (cmpOf : Bytes → CmpKind) (n : Nat) : RInv cmpOf n sinit [] rspecInit :=
  ⟨rfl, CollsOK.nil _ _ _, rfl, trivial, List.Pairwise.nil, rfl⟩

/-- the operations that only replace the collection list -/
theorem RInv.mem {cmpOf : Bytes → CmpKind} {n : Nat} {s : SState} {ends : List Nat} {sp : RSpec}
    (h : RInv cmpOf n s ends sp) {op : SOp} (hop : OpOK op) (h1 : op ≠ .flush) (h2 : op ≠ .reopen) :
    RInv cmpOf (n+1) (sstep cmpOf s op) ends ⟨(specStep cmpOf ⟨sp.cur, []⟩ op).cur, sp.flushed⟩ := by
  obtain ⟨hc, ha, hf, hz⟩ := h.colls.sstep hop h1 h2 []
  exact ⟨hz.trans (hf ▸ h.size), hf ▸ hc, h.cur ▸ ha, hf ▸ h.stack.mono (Nat.le_succ n), h.dec,
    hf ▸ h.top⟩

theorem rinv_flush {cmpOf : Bytes → CmpKind} {n : Nat} {s : SState} {ends : List Nat} {sp : RSpec}
    (h : RInv cmpOf n s ends sp) (hn : n < 2^32) (hlim : (sstep cmpOf s .flush).size < 2^32) :
    RInv cmpOf (n+1) (sstep cmpOf s .flush) ((sstep cmpOf s .flush).size :: ends)
      (rspecStep cmpOf sp (.base .flush)) := by
  obtain ⟨hE, htight, hlt, hpre⟩ :=
    flush_entry (s := { bytes := s.file, size := s.size, log := [] }) h.colls rfl rfl h.size hn hlim
  have hE := (h.cur ▸ hE).mono (Nat.le_succ n)
  have hle : ∀ e ∈ ends, e ≤ s.size := fun e he => h.size ▸ (h.stack.mem e he).1
  refine ⟨htight, hE.collsOK, hE.abs, ⟨⟨_, hE⟩, ?_⟩, ?_, htight⟩
  · -- the older entries lie below the old end of the file, which the flush has not touched
    refine h.stack.imp fun e he _ _ hEe => (hEe.mono (Nat.le_succ n)).congr ?_ ?_
    · exact Nat.le_trans (hle e he) (Nat.le_of_lt (htight ▸ hlt))
    · show List.take e (flushStore _ _).2.bytes = _
      rw [← take_take_le _ (hle e he), hpre, take_take_le _ (hle e he)]
  · exact List.pairwise_cons.mpr ⟨fun e he => Nat.lt_of_le_of_lt (hle e he) hlt, h.dec⟩

theorem RInv.opens {cmpOf : Bytes → CmpKind} {n : Nat} {s : SState} {ends : List Nat} {sp : RSpec}
    (h : RInv cmpOf n s ends sp) :
    ∃ dc, openStore 0 s.file cmpOf = .ok ⟨some 0, s.file.length, dc, false⟩ ∧
      CollsOK cmpOf s.file n dc ∧ absColls dc = sp.flushed.headD [] := by
  have htop := h.top
  cases ends with
  | nil =>
    rw [StackOK.of_nil h.stack, show s.file = [] from htop]
    exact ⟨[], rfl, CollsOK.nil _ _ _, rfl⟩
  | cons e es =>
    obtain ⟨dc, fl, fls, hfl, h1, _⟩ := StackOK.of_cons h.stack
    obtain rfl : e = s.file.length := htop
    rw [hfl]
    exact ⟨dc, h1.opens, h1.collsOK, h1.abs⟩

theorem rinv_reopen {cmpOf : Bytes → CmpKind} {n : Nat} {s : SState} {ends : List Nat} {sp : RSpec}
    (h : RInv cmpOf n s ends sp) :
    RInv cmpOf (n+1) (sstep cmpOf s .reopen) ends (rspecStep cmpOf sp (.base .reopen)) := by
  obtain ⟨dc, h1, h2, h3⟩ := h.opens
  have e : sstep cmpOf s .reopen = { colls := dc, file := s.file, size := s.file.length } := by
    simp only [sstep, h1]
  rw [e]
  exact ⟨rfl, h2.mono (Nat.le_succ n), h3, h.stack.mono (Nat.le_succ n), h.dec, h.top⟩

theorem rinv_revert {cmpOf : Bytes → CmpKind} {n : Nat} {s : SState} {ends : List Nat} {sp : RSpec}
    (h : RInv cmpOf n s ends sp) (hnf : NoForgedRoots s.file ends) :
    RInv cmpOf (n+1) (rstep cmpOf s .revert) (ends.drop 1) (rspecStep cmpOf sp .revert) := by
  obtain ⟨cur, flushed⟩ := sp
  obtain ⟨colls, file, size⟩ := s
  obtain rfl : size = file.length := h.size
  have hst : StackOK cmpOf file n ends flushed := h.stack
  have htop := h.top
  cases ends with
  | nil =>
    -- the file is empty: `revertStore` scans down from size 0, finds no root record at once and
    -- returns the empty store; `rstep` evaluates to `sinit`
    obtain rfl : file = [] := htop
    rw [StackOK.of_nil hst]
    exact rinv_init cmpOf _
  | cons e0 es =>
    obtain ⟨dc0, fl0, fls, rfl, hE0, hst'⟩ := StackOK.of_cons hst
    obtain rfl : e0 = file.length := htop
    obtain ⟨hd0, hdec'⟩ := List.pairwise_cons.mp h.dec
    -- below the end of the file, root records end at the older ends only
    have hbelow : ∀ e' < file.length, e' ∉ es → rootAt file e' = none := fun e' hlt hm =>
      Option.not_isSome_iff_eq_none.mp fun hs =>
        (List.mem_cons.mp (hnf e' hs)).elim (Nat.ne_of_lt hlt) hm
    cases es with
    | nil =>
      -- nothing older is left
      have e := revertStore_none ⟨some 0, file.length, colls, false⟩ 0 file cmpOf
        (Or.inr ⟨file.length, _, hE0.root, Nat.le_refl _,
          fun e' h1 h2 => absurd h2 (Nat.not_le_of_lt h1),
          fun e' hlt => hbelow e' hlt List.not_mem_nil⟩)
      simp only [rstep, e]
      rw [StackOK.of_nil hst']
      exact rinv_init cmpOf _
    | cons e1 es =>
      obtain ⟨dc1, fl1, fls, rfl, hE1, _⟩ := StackOK.of_cons hst'
      -- the older ends are at most `e1`: none lies strictly between `e1` and the end of the file,
      -- and the truncated file agrees with the old one below each of them
      have hle1 : ∀ x ∈ e1 :: es, x ≤ e1 := List.forall_mem_cons.mpr
        ⟨Nat.le_refl _, fun x hx => Nat.le_of_lt ((List.pairwise_cons.mp hdec').1 x hx)⟩
      have hrev := revertStore_prev_at_end ⟨some 0, file.length, colls, false⟩ 0 file cmpOf
        _ hE0.root e1 _ (hd0 e1 (List.mem_cons_self ..)) hE1.root
        fun e' h1 h2 => hbelow e' h2 fun hm => Nat.not_lt_of_le (hle1 e' hm) h1
      rw [hE1.load] at hrev
      simp only [rstep, hrev]
      show RInv cmpOf (n+1) ⟨dc1, file.take e1, e1⟩ _ _
      have hl : e1 = (file.take e1).length := (List.length_take_of_le hE1.le).symm
      have hcut : ∀ e ≤ e1, ∀ dc fl, EntryOK cmpOf file n e dc fl →
          EntryOK cmpOf (file.take e1) (n+1) e dc fl := fun e hle _ _ hEe =>
        (hEe.mono (Nat.le_succ n)).congr (Nat.le_trans hle (Nat.le_of_eq hl)) (take_take_le file hle)
      exact ⟨hl, (hcut e1 (Nat.le_refl _) _ _ hE1).collsOK, hE1.abs,
        hst'.imp fun e he => hcut e (hle1 e he), hdec', hl⟩

def ROpOK : ROp → Prop
  | .base op => OpOK op
  | .revert => True

theorem rinv_step {cmpOf : Bytes → CmpKind} {n : Nat} {s : SState} {ends : List Nat} {sp : RSpec}
    (h : RInv cmpOf n s ends sp) (op : ROp) (hop : ROpOK op) (hn : n < 2^32)
    (hlim : (rstep cmpOf s op).size < 2^32)
    (hnf : op = .revert → NoForgedRoots s.file ends) :
    RInv cmpOf (n+1) (rstep cmpOf s op) (nextEnds cmpOf s ends op) (rspecStep cmpOf sp op) := by
  rcases op with (nm | nm | ⟨nm, i⟩ | ⟨nm, k⟩ | _ | _) | _
  · exact h.mem (op := .setColl nm) hop nofun nofun
  · exact h.mem (op := .rmColl nm) hop nofun nofun
  · exact h.mem (op := .set nm i) hop nofun nofun
  · exact h.mem (op := .del nm k) hop nofun nofun
  · exact rinv_flush h hn hlim
  · exact rinv_reopen h
  · exact rinv_revert h (hnf rfl)

/-- side conditions on a history with reverts: plain names, items within the format limits, file
    below 4 GiB after every prefix, fewer than `2^32` operations (for a history without reverts
    this much is `Machine.HistOK` of `Proofs/Machine.lean`, `HistOK.base`), and: at
    the moment of every FlushRevert the only offsets of the file at which a complete
    self-consistent root record ends are the ends of the flushes still on the stack, i.e. no
    key/value bytes contain a forged root record -/
def RHistOK (cmpOf : Bytes → CmpKind) (ops : List ROp) : Prop :=
  (∀ op ∈ ops, ROpOK op) ∧
  (∀ k, (rrun cmpOf (ops.take k)).size < 2^32) ∧
  ops.length < 2^32 ∧
  (∀ k, ops[k]? = some .revert →
    NoForgedRoots (rrun cmpOf (ops.take k)).file (flushEnds cmpOf (ops.take k)))

theorem rinv_take (cmpOf : Bytes → CmpKind) (ops : List ROp) (h : RHistOK cmpOf ops) :
    ∀ k, k ≤ ops.length →
      RInv cmpOf k (rrun cmpOf (ops.take k)) (flushEnds cmpOf (ops.take k))
        (rspecRun cmpOf (ops.take k))
  | 0, _ => by
    rw [List.take_zero]
    exact rinv_init cmpOf 0
  | k+1, hk => by
    have hlt : k < ops.length := hk
    have ih := rinv_take cmpOf ops h k (Nat.le_of_lt hlt)
    have hl := h.2.1 (k+1)
    rw [List.take_succ_eq_append_getElem hlt] at hl ⊢
    rw [rrun_snoc] at hl ⊢
    rw [rspecRun_snoc, flushEnds_snoc]
    refine rinv_step ih _ (h.1 _ (List.getElem_mem hlt)) (by have := h.2.2.1; omega) hl ?_
    intro hop
    exact h.2.2.2 k (by rw [List.getElem?_eq_getElem hlt, hop])

theorem rinv_run (cmpOf : Bytes → CmpKind) (ops : List ROp) (h : RHistOK cmpOf ops) :
    RInv cmpOf ops.length (rrun cmpOf ops) (flushEnds cmpOf ops) (rspecRun cmpOf ops) := by
  have := rinv_take cmpOf ops h ops.length (Nat.le_refl _)
  rw [List.take_length] at this
  exact this

/-- C08 (and, without reverts, the store-level clause of C01): after every admissible history —
    flushes, re-opens, reverts in any order and number — the store shows exactly what the
    specification (a stack of flushed states) shows -/
theorem rrefinement (cmpOf : Bytes → CmpKind) (ops : List ROp) (h : RHistOK cmpOf ops) :
    absS (rrun cmpOf ops) = (rspecRun cmpOf ops).cur :=
  (rinv_run cmpOf ops h).cur

/-- re-opening the (truncated) file after any history shows the top of the stack -/
theorem r_reopen_shows_top (cmpOf : Bytes → CmpKind) (ops : List ROp) (h : RHistOK cmpOf ops) :
    ∃ dc, openStore 0 (rrun cmpOf ops).file cmpOf
        = .ok ⟨some 0, (rrun cmpOf ops).file.length, dc, false⟩ ∧
      absColls dc = (rspecRun cmpOf ops).flushed.headD [] := by
  obtain ⟨dc, h1, _, h3⟩ := (rinv_run cmpOf ops h).opens
  exact ⟨dc, h1, h3⟩

theorem rinvariant (cmpOf : Bytes → CmpKind) (ops : List ROp) (h : RHistOK cmpOf ops) :
    StoreInv cmpOf (rrun cmpOf ops) := by
  have hi := rinv_run cmpOf ops h
  have hc := hi.colls.all
  obtain ⟨dc, h1, _⟩ := hi.opens
  exact ⟨hi.colls.sorted, fun c m => (hc c m).hcmp, fun c m => (hc c m).plain,
    fun c m => (hc c m).tree.bst, fun c m => (hc c m).tree.agg,
    fun c m => (hc c m).tree.sizesOK h.2.2.1, fun c m => hi.size ▸ (hc c m).coh, hi.size, dc, h1⟩

/-- the file ends exactly at the root record of the flush on top of the stack (or is empty) -/
theorem file_ends_at_top_flush (cmpOf : Bytes → CmpKind) (ops : List ROp) (h : RHistOK cmpOf ops) :
    (flushEnds cmpOf ops).length = (rspecRun cmpOf ops).flushed.length ∧
    (flushEnds cmpOf ops).Pairwise (· > ·) ∧
    (∀ e ∈ flushEnds cmpOf ops, e ≤ (rrun cmpOf ops).file.length ∧
      (rootAt (rrun cmpOf ops).file e).isSome) ∧
    (rrun cmpOf ops).size = (rrun cmpOf ops).file.length ∧
    (match flushEnds cmpOf ops with
      | [] => (rrun cmpOf ops).file = []
      | e :: _ => e = (rrun cmpOf ops).file.length) := by
  have hi := rinv_run cmpOf ops h
  exact ⟨hi.stack.length, hi.dec, hi.stack.mem, hi.size, hi.top⟩

theorem rspecRun_reverts (cmpOf : Bytes → CmpKind) (ops : List ROp) : ∀ n,
    rspecRun cmpOf (ops ++ List.replicate (n+1) .revert) =
      ⟨((rspecRun cmpOf ops).flushed.drop (n+1)).headD [], (rspecRun cmpOf ops).flushed.drop (n+1)⟩
  | 0 => by
    show rspecRun cmpOf (ops ++ [.revert]) = _
    rw [rspecRun_snoc]
    rfl
  | n+1 => by
    rw [List.replicate_succ', ← List.append_assoc, rspecRun_snoc, rspecRun_reverts cmpOf ops n]
    simp only [rspecStep, List.drop_drop]

/-- consecutive reverts walk back one flush at a time, past the first flush to the empty store.
    `_partial`: only under `RHistOK`, i.e. for histories in which no value forges a root record;
    C08 asks for all histories, and for those it is false (`Props/C08.lean`, finding F17).

    `0 < n` is needed: for `n = 0` the statement would say that the current state always is the
    top of the stack.  Counterexample: `ops = [.base (.setColl [97])]`, `n = 0`:
    `absS (rrun cmpOf ops) = [([97], [])]` but `(rspecRun cmpOf ops).flushed = []`, so the right
    hand side is `[]`. -/
theorem reverts_walk_back_partial (cmpOf : Bytes → CmpKind) (ops : List ROp) (n : Nat)
    (hn : 0 < n) (h : RHistOK cmpOf (ops ++ List.replicate n .revert)) :
    absS (rrun cmpOf (ops ++ List.replicate n .revert))
      = ((rspecRun cmpOf ops).flushed.drop n).headD [] := by
  obtain ⟨m, rfl⟩ : ∃ m, n = m + 1 := ⟨n - 1, by omega⟩
  rw [rrefinement cmpOf _ h, rspecRun_reverts]

/-- the same, for the file: after `n ≥ 1` reverts re-opening shows the same entry of the stack -/
theorem reverts_walk_back_file (cmpOf : Bytes → CmpKind) (ops : List ROp) (n : Nat)
    (hn : 0 < n) (h : RHistOK cmpOf (ops ++ List.replicate n .revert)) :
    ∃ dc, openStore 0 (rrun cmpOf (ops ++ List.replicate n .revert)).file cmpOf
        = .ok ⟨some 0, (rrun cmpOf (ops ++ List.replicate n .revert)).file.length, dc, false⟩ ∧
      absColls dc = ((rspecRun cmpOf ops).flushed.drop n).headD [] := by
  obtain ⟨m, rfl⟩ : ∃ m, n = m + 1 := ⟨n - 1, by omega⟩
  obtain ⟨dc, h1, h2⟩ := r_reopen_shows_top cmpOf _ h
  rw [rspecRun_reverts] at h2
  exact ⟨dc, h1, h2⟩

#print axioms rrefinement
#print axioms r_reopen_shows_top
#print axioms rinvariant
#print axioms file_ends_at_top_flush
#print axioms reverts_walk_back_partial
#print axioms reverts_walk_back_file

end Gkv.MachineR
