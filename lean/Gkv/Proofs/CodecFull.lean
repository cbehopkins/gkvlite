/-
The JSON map of a root record: the strict parser reads back what the printer wrote, for EVERY byte
string as a collection name (no `PlainName` hypothesis), hence `decJson (encJson es) = some es` and
`rootAt (pre ++ encRoot ..) .. = some es` without restrictions on the names.

Each parser gets one lemma of one shape, `parse (print x ++ rest) = some (x, rest)` for arbitrary
`rest`, so that the lemmas compose by rewriting from left to right.  The two loops (`parseStr`,
`parseEntries`) get a lemma for one round, and their pair lemma is an induction over what was
printed; a loop's fuel has to cover its input, which is what its caller gives it.
-/
import Gkv.Proofs.Codec

namespace Gkv

/-- the ten digit bytes, by evaluation: each is in `'0'..'9'` and has its value -/
theorem digit_spec : ∀ k, k < 10 →
    (48 ≤ UInt8.ofNat (48 + k) ∧ UInt8.ofNat (48 + k) ≤ 57) ∧
      (UInt8.ofNat (48 + k)).toNat - 48 = k := by
  decide

theorem natDigits_spec (n : Nat) :
    (∀ c ∈ natDigits n, 48 ≤ c ∧ c ≤ 57) ∧
      (natDigits n).foldl (fun acc c => acc * 10 + (c.toNat - 48)) 0 = n := by
  fun_induction natDigits n with
  | case1 n h =>
    have := digit_spec n h
    exact ⟨fun c hc => List.mem_singleton.mp hc ▸ this.1,
      by rw [List.foldl_cons, this.2]; exact Nat.zero_add n⟩
  | case2 n h ih =>
    have := digit_spec (n % 10) (Nat.mod_lt _ (by decide))
    refine ⟨fun c hc => ?_, ?_⟩
    · rcases List.mem_append.mp hc with hc | hc
      · exact ih.1 c hc
      · exact List.mem_singleton.mp hc ▸ this.1
    · rw [List.foldl_append, ih.2, List.foldl_cons, this.2]
      exact Nat.div_add_mod' n 10

theorem natDigits_ne_nil (n : Nat) : (natDigits n).length ≠ 0 := by
  unfold natDigits
  split
  · exact Nat.succ_ne_zero _
  · rw [List.length_append]; exact Nat.succ_ne_zero _

/-- The shape of every parser/printer lemma below: the parser, given the print of `x` and then
    arbitrary `rest`, returns `x` and `rest`.  A condition on `rest` is needed only here, where the
    print does not delimit itself: `rest` must not go on with a digit.  It is said with the parser's
    own `takeWhile`, so that `rfl` proves it from the literal that follows the number. -/
theorem parseNat_natDigits (n : Nat) (rest : Bytes)
    (hr : rest.takeWhile (fun c => 48 ≤ c ∧ c ≤ 57) = []) :
    parseNat (natDigits n ++ rest) = (n, rest, (natDigits n).length) := by
  dsimp only [parseNat]
  rw [List.takeWhile_append_of_pos fun c hc => decide_eq_true ((natDigits_spec n).1 c hc), hr,
    List.append_nil, (natDigits_spec n).2, List.drop_left]

theorem expect_append (p r : Bytes) : expect p (p ++ r) = some r := by
  unfold expect
  rw [if_pos (List.isPrefixOf_iff_prefix.mpr (List.prefix_append _ _)), List.drop_left]

theorem expect_cons (c : UInt8) (r : Bytes) : expect [c] (c :: r) = some r :=
  expect_append [c] r

theorem parsePloc_jsonPloc (p : Option Ploc) (rest : Bytes)
    (hp : ∀ q, p = some q → ¬ (q.off = 0 ∧ q.len = 0)) :
    parsePloc (jsonPloc p ++ rest) = some (p, rest) := by
  -- each number is non-empty and ends where the next literal begins: at `,` and at `}`
  simp only [parsePloc, jsonPloc, List.append_assoc, expect_append, Option.bind_eq_bind,
    Option.bind_some, parseNat_natDigits _ (jsonL ++ _) rfl, parseNat_natDigits _ ([125] ++ _) rfl,
    natDigits_ne_nil, if_false]
  cases p with
  | none => rfl
  | some q => rw [Option.getD_some, if_neg (hp q rfl)]

/-- One round of `parseStr`: with one unit of fuel it reads the bytes `esc` as the bytes `src`
    (pushed on the accumulator, which is kept reversed) and goes on with whatever follows. -/
def Reads (esc src : Bytes) : Prop :=
  ∀ f acc tl, parseStr (f + 1) acc (esc ++ tl) = parseStr f (src.reverse ++ acc) tl

/-- any `\uXXXX` -/
theorem reads_u {a b c d : UInt8} {x y z w : Nat} (ha : unhex a = some x) (hb : unhex b = some y)
    (hc : unhex c = some z) (hd : unhex d = some w) :
    Reads [92, 117, a, b, c, d] (utf8 (x * 4096 + y * 256 + z * 16 + w)) := fun f acc tl => by
  show parseStr (f + 1) acc (92 :: 117 :: a :: b :: c :: d :: tl) = _
  rw [parseStr, if_neg (by decide), if_pos rfl, ha, hb, hc, hd]
  rfl

theorem reads_u2028 : Reads [92, 117, 50, 48, 50, 56] [0xE2, 0x80, 0xA8] :=
  reads_u (x := 2) (y := 0) (z := 2) (w := 8) rfl rfl rfl rfl

theorem reads_u2029 : Reads [92, 117, 50, 48, 50, 57] [0xE2, 0x80, 0xA9] :=
  reads_u (x := 2) (y := 0) (z := 2) (w := 9) rfl rfl rfl rfl

/-- the sixteen hex digits, by evaluation -/
theorem unhex_hexDigit : ∀ n, n < 16 → unhex (hexDigit n) = some n := by decide

theorem reads_u00 (c : UInt8) (h : c < 128) : Reads (u00 c) [c] := by
  have := reads_u (a := 48) (b := 48) (x := 0) (y := 0) rfl rfl
    (unhex_hexDigit (c.toNat / 16) (by have := c.toNat_lt; omega))
    (unhex_hexDigit (c.toNat % 16) (Nat.mod_lt _ (by decide)))
  rwa [show 0 * 4096 + 0 * 256 + c.toNat / 16 * 16 + c.toNat % 16 = c.toNat by omega, utf8,
    if_pos (show c.toNat < 128 from UInt8.lt_iff_toNat_lt.mp h), UInt8.ofNat_toNat] at this

theorem reads_copy (c : UInt8) (h1 : c ≠ 34) (h2 : c ≠ 92) : Reads [c] [c] := fun f acc tl => by
  show parseStr (f + 1) acc (c :: tl) = _
  rw [parseStr.eq_def]
  simp only [if_neg h1, if_neg h2]
  rfl

/-- a round costs one unit of fuel whatever it reads, so what it reads is not empty: with no fuel
    left even a closing quote is not read -/
theorem Reads.pos {esc src : Bytes} (h : Reads esc src) : 0 < esc.length := by
  cases esc with
  | nil => cases h 0 [] [34]
  | cons => exact Nat.succ_pos _

/-- the step of `parseStr_jsonEscape`: a round in front of a string that is read back -/
theorem Reads.append {esc src es s rest : Bytes} (h : Reads esc src)
    (ih : ∀ fuel acc, (es ++ 34 :: rest).length ≤ fuel →
      parseStr fuel acc (es ++ 34 :: rest) = some (acc.reverse ++ s, rest))
    (fuel : Nat) (acc : Bytes) (hf : (esc ++ es ++ 34 :: rest).length ≤ fuel) :
    parseStr fuel acc (esc ++ es ++ 34 :: rest) = some (acc.reverse ++ (src ++ s), rest) := by
  rw [List.append_assoc, List.length_append] at hf
  obtain ⟨f, rfl⟩ : ∃ f, fuel = f + 1 := ⟨fuel - 1, by have := h.pos; omega⟩
  rw [List.append_assoc, h, ih _ _ (by have := h.pos; omega), List.reverse_append,
    List.reverse_reverse, List.append_assoc]

/- The cases of `jsonEscape` against `parseStr`: E2 80 A8 / E2 80 A9 ↦ `\u2028` / `\u2029`, which the
parser decodes with `unhex` and re-encodes with `utf8` to the same three bytes (`reads_u2028`,
`reads_u2029`); `"` `\` 08 0C 0A 0D 09 ↦ two-byte escapes (the parser evaluated on the two literal
bytes); other bytes < 32 and `<` `>` `&` ↦ `\u00XX` (`reads_u00`: both hex digits decode, the code
point is < 128, so `utf8` gives back the one byte); every other byte -- including a lone E2, and
every byte ≥ 128, valid UTF-8 or not -- is copied, is neither `"` nor `\`, and is copied by the
parser too (`reads_copy`).  (The *Go* encoder would replace invalid UTF-8 by `�` (U+FFFD);
`jsonEscape` is specified for valid UTF-8 only and copies such bytes, which is what is proved here.)
The overlapping patterns of `jsonEscape` are handled by its functional induction, whose generic case
is the chain of `if`s on one byte. -/
theorem parseStr_jsonEscape (n rest : Bytes) : ∀ (fuel : Nat) (acc : Bytes),
    (jsonEscape n ++ 34 :: rest).length ≤ fuel →
    parseStr fuel acc (jsonEscape n ++ 34 :: rest) = some (acc.reverse ++ n, rest) := by
  fun_induction jsonEscape n with
  | case1 =>
    intro fuel acc hf
    cases fuel with
    | zero => exact absurd hf (Nat.not_succ_le_zero _)
    | succ f => rw [List.append_nil]; rfl
  | case2 r ih => exact reads_u2028.append ih
  | case3 r ih => exact reads_u2029.append ih
  | case4 c r _ _ ih =>
    refine Reads.append (src := [c]) ?_ ih
    -- the chain is taken apart with `iteInduction`: `split` on it costs twenty times as much
    iterate 7
      refine iteInduction (motive := (Reads · [c])) (by rintro rfl; exact fun _ _ _ => rfl) fun _ => ?_
    refine iteInduction (motive := (Reads · [c])) (fun h => reads_u00 c ?_)
      fun _ => reads_copy c ‹_› ‹_›
    rcases h with h | rfl | rfl | rfl
    · exact UInt8.lt_trans h (by decide)
    all_goals decide

/-- one round of `parseEntries` -/
theorem parseEntries_step (fuel : Nat) (e : Bytes × Option Ploc) (tail : Bytes)
    (acc : List (Bytes × Option Ploc))
    (hp : ∀ q, e.2 = some q → ¬ (q.off = 0 ∧ q.len = 0)) :
    parseEntries (fuel + 1) (jsonEntry e ++ tail) acc =
      (match tail with
       | [125] => some (e :: acc).reverse
       | 44 :: b' => parseEntries fuel b' (e :: acc)
       | _ => none) := by
  simp only [parseEntries, jsonEntry, List.append_assoc, List.cons_append, List.nil_append,
    expect_cons, Option.bind_eq_bind, Option.bind_some,
    parseStr_jsonEscape _ _ _ _ (Nat.le_succ _), parsePloc_jsonPloc _ _ hp]
  rfl

theorem parseEntries_entries : ∀ (es : List (Bytes × Option Ploc)) (e : Bytes × Option Ploc)
    (fuel : Nat) (acc : List (Bytes × Option Ploc)),
    (∀ x ∈ e :: es, ∀ q, x.2 = some q → ¬ (q.off = 0 ∧ q.len = 0)) →
    (jsonEntries (e :: es) ++ [125]).length ≤ fuel →
    parseEntries fuel (jsonEntries (e :: es) ++ [125]) acc = some (acc.reverse ++ e :: es)
  | _, _, 0, _, _, hf => absurd hf (by rw [List.length_append]; exact Nat.not_succ_le_zero _)
  | [], e, f + 1, acc, hp, _ => by
    show parseEntries (f + 1) (jsonEntry e ++ [125]) acc = _
    rw [parseEntries_step _ _ _ _ (hp e (List.mem_cons_self ..))]
    exact congrArg some List.reverse_cons
  | e' :: es, e, f + 1, acc, hp, hf => by
    change (jsonEntry e ++ [44] ++ jsonEntries (e' :: es) ++ [125]).length ≤ _ at hf
    show parseEntries (f + 1) (jsonEntry e ++ [44] ++ jsonEntries (e' :: es) ++ [125]) acc = _
    rw [List.append_assoc, List.append_assoc] at hf ⊢
    rw [parseEntries_step _ _ _ _ (hp e (List.mem_cons_self ..))]
    show parseEntries f (jsonEntries (e' :: es) ++ [125]) (e :: acc) = _
    rw [parseEntries_entries es e' f _ (fun x hx => hp x (List.mem_cons_of_mem _ hx))
      (by rw [List.length_append, List.length_append, List.length_singleton] at hf; omega),
      List.reverse_cons, List.append_assoc]
    rfl

theorem decJson_encJson (es : List (Bytes × Option Ploc))
    (hp : ∀ e ∈ es, ∀ q, e.2 = some q → ¬ (q.off = 0 ∧ q.len = 0)) :
    decJson (encJson es) = some es := by
  cases es with
  | nil => rfl
  | cons e es =>
    -- `decJson` has to see that the text does not go on with `}`: an entry begins with a quote
    obtain ⟨X, hX⟩ : ∃ X, jsonEntries (e :: es) ++ [125] = 34 :: X := by
      cases es <;> exact ⟨_, rfl⟩
    have := parseEntries_entries es e _ [] hp (Nat.le_succ _)
    rw [hX] at this
    show decJson (123 :: (jsonEntries (e :: es) ++ [125])) = _
    rw [hX]
    exact this

theorem rootAt_encRoot (pre : Bytes) (es : List (Bytes × Option Ploc))
    (hp : ∀ e ∈ es, ∀ q, e.2 = some q → ¬ (q.off = 0 ∧ q.len = 0))
    (hsz : pre.length + (encRoot pre.length es).length < 2^32) :
    rootAt (pre ++ encRoot pre.length es) (pre.length + (encRoot pre.length es).length) = some es := by
  rw [encRoot_length] at hsz ⊢
  exact (rootAt_frame (by simp only [encRoot, List.append_assoc]) rfl rfl rfl
    (by unfold encJson; rw [List.length_append, List.length_append]; exact Nat.succ_pos _)
    (by omega)).trans (decJson_encJson es hp)

/-- names that the JSON writer passes through unescaped: no quote, no backslash, no control byte,
    none of `<` `>` `&`, and no E2 80 A8 / E2 80 A9 sequence (simplified: no byte E2 at all) -/
def PlainName (n : Bytes) : Prop :=
  ∀ c ∈ n, c ≠ 34 ∧ c ≠ 92 ∧ 32 ≤ c ∧ c ≠ 60 ∧ c ≠ 62 ∧ c ≠ 38 ∧ c ≠ 0xE2

theorem jsonEscape_plain (n : Bytes) (h : PlainName n) : jsonEscape n = n := by
  fun_induction jsonEscape n with
  | case1 => rfl
  | case2 | case3 => exact absurd rfl (h _ (List.mem_cons_self ..)).2.2.2.2.2.2
  | case4 c n _ _ ih =>
    obtain ⟨h1, h2, h3, h4, h5, h6, -⟩ := h c (List.mem_cons_self ..)
    have lt : ∀ d : UInt8, d < 32 → c ≠ d := fun d hd e => UInt8.not_lt.mpr h3 (e ▸ hd)
    rw [ih fun x hx => h x (List.mem_cons_of_mem _ hx), if_neg h1, if_neg h2,
      if_neg (lt 8 (by decide)), if_neg (lt 12 (by decide)), if_neg (lt 10 (by decide)),
      if_neg (lt 13 (by decide)), if_neg (lt 9 (by decide)),
      if_neg (not_or.mpr ⟨UInt8.not_lt.mpr h3, not_or.mpr ⟨h4, not_or.mpr ⟨h5, h6⟩⟩⟩)]
    rfl

#print axioms parseStr_jsonEscape
#print axioms decJson_encJson
#print axioms rootAt_encRoot

end Gkv
