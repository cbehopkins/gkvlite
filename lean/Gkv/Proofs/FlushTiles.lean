/-
Property C19 (support) — the records written by one fault-free `Flush` tile the file: every
`WriteAt` of the flush starts exactly where the previous one ended, the first at the old
`Store.size`, and the last ends at the new `Store.size`.  Hence distinct records (item header+key,
item value, node record, root record) never overlap, and the byte ranges used by
`keyonly_reads_disjoint` / `node_reads_disjoint` (`Proofs/Lazy.lean`) are indeed disjoint from the
value ranges of all other records.  `Proofs/CrashOpen.lean` rests on it too: a flush that starts at
the end of the file ends at the end of the file (`TFrame.tight`), which is where its root record
is then found (`flush_root_at`, C02/C03).
-/
import Gkv.Proofs.FlushFrame

namespace Gkv

/-- the writes of `log` tile `[lo, hi)`: each starts where the previous ended -/
def Tiles : Nat → List FileEv → Nat → Prop
  | lo, [], hi => lo = hi
  | lo, .write off len :: rest, hi => off = lo ∧ Tiles (lo + len) rest hi
  | _, .trunc _ :: _, _ => False

theorem Tiles.append : ∀ {a b c : Nat} {l1 l2 : List FileEv},
    Tiles a l1 b → Tiles b l2 c → Tiles a (l1 ++ l2) c
  | _, _, _, [], _, h1, h2 => by cases h1; exact h2
  | _, _, _, .write _ _ :: _, _, h1, h2 => ⟨h1.1, Tiles.append h1.2 h2⟩
  | _, _, _, .trunc _ :: _, _, h1, _ => h1.elim

theorem Tiles.lo_le_hi : ∀ {a c : Nat} {l : List FileEv}, Tiles a l c → a ≤ c
  | _, _, [], h => Nat.le_of_eq h
  | _, _, .write _ _ :: _, h => Nat.le_trans (Nat.le_add_right ..) (Tiles.lo_le_hi h.2)
  | _, _, .trunc _ :: _, h => h.elim

theorem Tiles.within : ∀ {a c : Nat} {l : List FileEv}, Tiles a l c →
    ∀ off len, FileEv.write off len ∈ l → a ≤ off ∧ off + len ≤ c
  | _, _, [], _, _, _, hm => nomatch hm
  | a, _, .write o n :: rest, h, off, len, hm => by
    rcases List.mem_cons.mp hm with e | hm
    · cases e
      exact ⟨Nat.le_of_eq h.1.symm, h.1 ▸ Tiles.lo_le_hi h.2⟩
    · have := Tiles.within h.2 off len hm
      exact ⟨Nat.le_trans (Nat.le_add_right ..) this.1, this.2⟩
  | _, _, .trunc _ :: _, h, _, _, _ => h.elim

/-- distinct writes of a tiling never overlap: of two writes at different positions of the log, the
    earlier one ends at or before the start of the later one -/
theorem Tiles.disjoint : ∀ {a c : Nat} {l : List FileEv}, Tiles a l c →
    ∀ (l1 l2 l3 : List FileEv) (o1 n1 o2 n2 : Nat),
      l = l1 ++ .write o1 n1 :: l2 ++ .write o2 n2 :: l3 → o1 + n1 ≤ o2 := by
  intro a c l h l1
  -- by induction on what precedes the first write: the second lies in the tiling behind the first
  induction l1 generalizing a l with
  | nil =>
    rintro l2 l3 o1 n1 o2 n2 rfl
    exact h.1 ▸ (Tiles.within h.2 o2 n2 (List.mem_append_right _ (List.mem_cons_self ..))).1
  | cons e l1 ih =>
    rintro l2 l3 o1 n1 o2 n2 rfl
    cases e with
    | write o n => exact ih h.2 l2 l3 o1 n1 o2 n2 rfl
    | trunc _ => exact h.elim

theorem clean_not_failed {s : FileSt} (h : s.Clean) : ¬ (s.failed = true) := by
  rw [h.1]; exact Bool.false_ne_true

theorem writeAtOff_clean (s : FileSt) (h : s.Clean) (off : Nat) (b : Bytes) :
    s.writeAtOff off b =
      { s with bytes := writeAt s.bytes off b, log := s.log ++ [.write off b.length] } := by
  unfold FileSt.writeAtOff
  rw [if_neg (clean_not_failed h), h.2]

theorem advance_clean (s : FileSt) (h : s.Clean) (n : Nat) :
    s.advance n = { s with size := s.size + n } := by
  unfold FileSt.advance
  rw [if_neg (clean_not_failed h)]

theorem recStep_of_clean (s : FileSt) (h : s.Clean) (b : Bytes) (n : Nat) :
    recStep s b n = { s with bytes := writeAt s.bytes s.size b, size := s.size + n,
                             log := s.log ++ [.write s.size b.length] } := by
  have h1 : (s.write b).Clean := by rw [FileSt.write, writeAtOff_clean s h]; exact h
  rw [recStep, advance_clean _ h1, FileSt.write, writeAtOff_clean s h]

/-- an item step without a fault, stated in variables: with `encItemHdrKey i`, `i.val`, `itemRecLen i`
    in place of `hd`, `v`, `n` every `rfl` about the resulting state (in `tframe_item`) unfolds them,
    which is slow to check -/
theorem twoWrites_of_clean (s : FileSt) (h : s.Clean) (hd v : Bytes) (n : Nat) :
    ((s.write hd).writeAtOff (s.size + hd.length) v).advance n =
      { s with bytes := writeAt (writeAt s.bytes s.size hd) (s.size + hd.length) v,
               size := s.size + n,
               log := s.log ++ [.write s.size hd.length, .write (s.size + hd.length) v.length] } := by
  have h1 : (s.write hd).Clean := by rw [FileSt.write, writeAtOff_clean s h]; exact h
  have h2 : ((s.write hd).writeAtOff (s.size + hd.length) v).Clean := by
    rw [writeAtOff_clean _ h1]; exact h1
  rw [advance_clean _ h2, writeAtOff_clean _ h1, FileSt.write, writeAtOff_clean s h, List.append_assoc]
  rfl

/-- `s'` was reached from `s` by writes that tile `[s.size, s'.size)`; if `size` was the end of the
    file it still is.  What steps do from a state without a fault plan. -/
structure TFrame (s s' : FileSt) : Prop where
  log : ∃ new, s'.log = s.log ++ new ∧ Tiles s.size new s'.size
  tight : s.size = s.bytes.length → s'.size = s'.bytes.length

theorem TFrame.refl (s : FileSt) : TFrame s s :=
  ⟨⟨[], by rw [List.append_nil], rfl⟩, id⟩

theorem TFrame.trans {a b c : FileSt} (h1 : TFrame a b) (h2 : TFrame b c) : TFrame a c := by
  obtain ⟨n1, e1, t1⟩ := h1.log
  obtain ⟨n2, e2, t2⟩ := h2.log
  exact ⟨⟨n1 ++ n2, by rw [e2, e1, List.append_assoc], Tiles.append t1 t2⟩,
    fun h => h2.tight (h1.tight h)⟩

theorem recStep_tframe (s : FileSt) (h : s.Clean) (b : Bytes) {n : Nat} (hn : n = b.length) :
    TFrame s (recStep s b n) := by
  rw [recStep_of_clean s h]
  refine ⟨⟨_, rfl, rfl, congrArg (s.size + ·) hn.symm⟩, fun ht => ?_⟩
  show s.size + n = (writeAt s.bytes s.size b).length
  rw [ht, writeAt_end, List.length_append, hn]

theorem tframe_item (s : FileSt) (h : s.Clean) (hd v : Bytes) (n : Nat)
    (hn : n = hd.length + v.length) :
    TFrame s (((s.write hd).writeAtOff (s.size + hd.length) v).advance n) := by
  rw [twoWrites_of_clean s h]
  refine ⟨⟨_, rfl, rfl, rfl, (Nat.add_assoc _ _ _).trans (congrArg (s.size + ·) hn.symm)⟩,
    fun ht => ?_⟩
  show s.size + n = (writeAt (writeAt s.bytes s.size hd) (s.size + hd.length) v).length
  rw [writeAt_append _ _ _ _ (Nat.le_of_eq ht), ht, writeAt_end, List.length_append,
    List.length_append, hn]

theorem Steps.tframe {s s' : FileSt} (h : Steps s s') (hc : s.Clean) : TFrame s s' := by
  induction h with
  | refl => exact TFrame.refl _
  | item i h ih =>
    exact ih.trans (tframe_item _ (h.frame.noplan hc) _ _ _
      (by rw [← encItem_length, encItem, List.length_append]))
  | record b hn h ih => exact ih.trans (recStep_tframe _ (h.frame.noplan hc) b hn)

/-- Records written by one Flush tile the file consecutively: without a write fault, the writes
    that `flushStore` appends to the log are consecutive — each starts where the previous ended,
    the first at the old `size`, the last ends at the new `size`. -/
theorem flush_log_tiles (cs : List Coll) (s : FileSt) (hf : s.failed = false) (hp : s.failAt = none) :
    ∃ new, (flushStore cs s).2.log = s.log ++ new ∧ Tiles s.size new (flushStore cs s).2.size :=
  ((flushStore_steps cs s).tframe ⟨hf, hp⟩).log

/-- …which implies that distinct records never overlap: of any two different writes of one Flush,
    the earlier ends at or before the start of the later, and both lie in `[old size, new size)`. -/
theorem flush_writes_disjoint (cs : List Coll) (s : FileSt) (hf : s.failed = false)
    (hp : s.failAt = none) (l1 l2 l3 : List FileEv) (o1 n1 o2 n2 : Nat)
    (h : (flushStore cs s).2.log = s.log ++ (l1 ++ .write o1 n1 :: l2 ++ .write o2 n2 :: l3)) :
    s.size ≤ o1 ∧ o1 + n1 ≤ o2 ∧ o2 + n2 ≤ (flushStore cs s).2.size := by
  obtain ⟨new, he, ht⟩ := flush_log_tiles cs s hf hp
  have hnew : new = l1 ++ .write o1 n1 :: l2 ++ .write o2 n2 :: l3 :=
    List.append_cancel_left (he.symm.trans h)
  have h1 := Tiles.within ht o1 n1 (by rw [hnew]; simp)
  have h2 := Tiles.within ht o2 n2 (by rw [hnew]; simp)
  have h3 := Tiles.disjoint ht l1 l2 l3 o1 n1 o2 n2 hnew
  exact ⟨h1.1, h3, h2.2⟩

end Gkv
