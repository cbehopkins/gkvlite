/-
The executable `repB` (`Model/CacheIO.lean`), which the driver runs on the cached view the harness
reports (`cstatein`), decides `Rep`.
-/
import Gkv.Model.CacheIO
import Gkv.Proofs.Cache

namespace Gkv.Cache
open Gkv

theorem repItemB_iff (ci : CItem) (i : Item) (q : Option Ploc) :
    repItemB ci i q = true ↔ RepItem ci i q := by
  cases ci <;> simp only [repItemB, RepItem, Bool.and_eq_true, beq_iff_eq, and_assoc]

theorem repB_iff : ∀ (c : CTree) (T : Tree), repB c T = true ↔ Rep c T := by
  intro c
  induction c with
  | nil => intro T; cases T <;> simp [repB, Rep]
  | stub loc => intro T; cases T <;> simp [repB, Rep]
  | node cl ci nn nb cr cp ihl ihr =>
    intro T
    cases T with
    | nil => simp [repB, Rep]
    | node l i a b r p q =>
      simp only [repB, Rep, Bool.and_eq_true, beq_iff_eq, and_assoc, ihl, ihr, repItemB_iff]

end Gkv.Cache
