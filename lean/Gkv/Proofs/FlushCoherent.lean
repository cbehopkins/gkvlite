/-
Property C02 — "a successful Flush makes the entire store state durable" — and, for C07, what a
Flush that fails leaves behind.

`Tree.Coherent f bound t`: whatever part of `t` carries a file location decodes, from the bytes of
`f` below `bound`, to what is cached in memory.  Flush (`writeTree`, `flushColls`, `flushStore`),
whatever its fault plan, keeps coherent trees coherent; where it does not fail it leaves them
*persisted*, and a coherent persisted tree is exactly what lazy loading (`loadTree`) reads back
(re-opening: `Proofs/CrashOpen.lean`).
-/
import Gkv.Proofs.Codec
import Gkv.Proofs.FlushFrame

namespace Gkv

def Tree.SizesOK : Tree → Prop
  | .nil => True
  | .node l i a b r _ _ => ItemOK i ∧ a < 2^64 ∧ b < 2^64 ∧ l.SizesOK ∧ r.SizesOK

/-- the slot is empty or points at a persisted node -/
def Tree.Persisted : Tree → Prop
  | .nil => True
  | .node _ _ _ _ _ p _ => p.isSome

/-- the item record of `i` sits at `il`, wholly below `bound`, and decodes to `i` -/
def ItemAt (f : Bytes) (bound : Nat) (i : Item) (il : Ploc) : Prop :=
  il.len = itemRecLen i ∧ il.off + il.len ≤ bound ∧ decItem f il = some i

/-- a node record sits at `loc`, wholly below `bound`, and decodes to `n` -/
def NodeAt (f : Bytes) (bound : Nat) (n : NodeRec) (loc : Ploc) : Prop :=
  loc.len = nodeRecLen ∧ loc.off + loc.len ≤ bound ∧ decNode f loc = some n

-- Besides "decodes", `Tree.Coherent` says that each located record lies wholly below `bound` and has
-- the length its kind requires (`ItemAt`, `NodeAt`): that is what makes it depend only on
-- `f.take bound` (`coherent_of_prefix`) and what makes the plocs written into new node records
-- encodable (`slotLoc_encodable`, `ItemAt.encodable`).
/-- "whatever has a location decodes, from file `f` below `bound`, to what is cached":
    a node WITH a location: its record at that location decodes to (its item's location, its
    children's slot locations, its aggregates), its item has a location, its children are
    persisted; in any case the item, if it has a location, decodes from there; recursively. -/
def Tree.Coherent (f : Bytes) (bound : Nat) : Tree → Prop
  | .nil => True
  | .node l i a b r p q =>
    l.Coherent f bound ∧ r.Coherent f bound ∧
    (∀ il, q = some il → ItemAt f bound i il) ∧
    (∀ loc, p = some loc →
      NodeAt f bound ⟨q, l.slotLoc, r.slotLoc, a, b⟩ loc ∧ q.isSome ∧ l.Persisted ∧ r.Persisted)

/-- `writeItems` is done: every node that still lacks a location has its item on file -/
def Tree.ItemsDone : Tree → Prop
  | .nil => True
  | .node l _ _ _ r p q => p.isSome ∨ (q.isSome ∧ l.ItemsDone ∧ r.ItemsDone)

/-- depth of the tree: what the fuel of `loadTree` has to exceed -/
def Tree.height : Tree → Nat
  | .nil => 0
  | .node l _ _ _ r _ _ => Max.max l.height r.height + 1

theorem Tree.height_le_size : ∀ t : Tree, t.height ≤ t.size
  | .nil => Nat.le_refl _
  | .node l _ _ _ r _ _ => by
    have := Tree.height_le_size l
    have := Tree.height_le_size r
    simp only [Tree.height, Tree.size]
    omega

/-- every successful read of `f` below `bound` gives the same bytes on `g` -/
def ReadsAgree (f g : Bytes) (bound : Nat) : Prop :=
  ∀ off len b, off + len ≤ bound → readAt f off len = some b → readAt g off len = some b

theorem ReadsAgree.mono {f g : Bytes} {b b' : Nat} (h : ReadsAgree f g b) (hb : b' ≤ b) :
    ReadsAgree f g b' :=
  fun off len x hx hr => h off len x (Nat.le_trans hx hb) hr

theorem readsAgree_of_take (f g : Bytes) (bound : Nat) (hf : bound ≤ f.length)
    (hg : bound ≤ g.length) (h : g.take bound = f.take bound) : ReadsAgree f g bound := by
  intro off len b hle hr
  rw [← readAt_take g bound off len hle hg, h, readAt_take f bound off len hle hf]
  exact hr

theorem ItemAt.mono {f g : Bytes} {bound bound' : Nat} {i : Item} {il : Ploc}
    (h : ItemAt f bound i il) (hfg : ReadsAgree f g bound) (hb : bound ≤ bound') :
    ItemAt g bound' i il := by
  obtain ⟨h1, h2, h3⟩ := h
  refine ⟨h1, Nat.le_trans h2 hb, ?_⟩
  rw [decItem_eq_some] at h3 ⊢
  obtain ⟨h0, hd, r1, e1, e2, e3, e4, r2, r3⟩ := h3
  -- each of the three reads ends inside the record, and the record below `bound`
  rw [h1] at h2
  unfold itemRecLen at h2
  exact ⟨h0, hd, hfg _ _ _ (Nat.le_trans (by omega) h2) r1, e1, e2, e3, e4,
    hfg _ _ _ (Nat.le_trans (by omega) h2) r2, hfg _ _ _ (Nat.le_trans (by omega) h2) r3⟩

theorem NodeAt.mono {f g : Bytes} {bound bound' : Nat} {n : NodeRec} {loc : Ploc}
    (h : NodeAt f bound n loc) (hfg : ReadsAgree f g bound) (hb : bound ≤ bound') :
    NodeAt g bound' n loc := by
  obtain ⟨h1, h2, h3⟩ := h
  obtain ⟨h0, b, r, e⟩ := (decNode_eq_some f loc n).mp h3
  exact ⟨h1, Nat.le_trans h2 hb, (decNode_eq_some g loc n).mpr ⟨h0, b, hfg _ _ _ (h1 ▸ h2) r, e⟩⟩

theorem Tree.Coherent.mono {f g : Bytes} {bound bound' : Nat} {t : Tree}
    (hc : t.Coherent f bound) (hfg : ReadsAgree f g bound) (hb : bound ≤ bound') :
    t.Coherent g bound' := by
  induction t with
  | nil => trivial
  | node l i a b r p q ihl ihr =>
    obtain ⟨h1, h2, h3, h4⟩ := hc
    refine ⟨ihl h1, ihr h2, fun il hq => (h3 il hq).mono hfg hb, fun loc hp => ?_⟩
    obtain ⟨n1, n2, n3, n4⟩ := h4 loc hp
    exact ⟨n1.mono hfg hb, n2, n3, n4⟩

theorem coherent_of_prefix (f g : Bytes) (bound : Nat) (t : Tree) (hc : t.Coherent f bound)
    (hb : bound ≤ f.length) (hg : bound ≤ g.length) (h : g.take bound = f.take bound) :
    t.Coherent g bound :=
  hc.mono (readsAgree_of_take f g bound hb hg h) (Nat.le_refl _)

theorem readsAgree_of_steps {s s' : FileSt} (h : Steps s s') (hs : s.Wf) :
    ReadsAgree s.bytes s'.bytes s.size :=
  readsAgree_of_take _ _ _ hs (Nat.le_trans hs h.frame.len) (h.frame.pre s.size (Nat.le_refl _) hs)

theorem Tree.Coherent.steps {s s' : FileSt} {t : Tree} (hc : t.Coherent s.bytes s.size)
    (h : Steps s s') (hs : s.Wf) : t.Coherent s'.bytes s'.size :=
  hc.mono (readsAgree_of_steps h hs) h.frame.size_mono

theorem ItemAt.steps {s s' : FileSt} {i : Item} {il : Ploc} (hc : ItemAt s.bytes s.size i il)
    (h : Steps s s') (hs : s.Wf) : ItemAt s'.bytes s'.size i il :=
  hc.mono (readsAgree_of_steps h hs) h.frame.size_mono

theorem Tree.Coherent.slotLoc_bound {f : Bytes} {bound : Nat} {t : Tree} {q : Ploc}
    (hc : t.Coherent f bound) (h : t.slotLoc = some q) :
    q.len = nodeRecLen ∧ q.off + q.len ≤ bound := by
  cases t with
  | nil => cases h
  | node l i a b r p iq =>
    obtain ⟨n1, n2, _⟩ := (hc.2.2.2 q h).1
    exact ⟨n1, n2⟩

/-- a location recorded in a coherent tree can be written into a record, as long as the file is
    shorter than `2^32`: it lies below `bound` and is not empty -/
theorem Tree.Coherent.slotLoc_encodable {f : Bytes} {bound : Nat} {t : Tree} {q : Ploc}
    (hc : t.Coherent f bound) (hB : bound < 2^32) (h : t.slotLoc = some q) :
    q.off < 2^64 ∧ q.len < 2^32 ∧ ¬ (q.off = 0 ∧ q.len = 0) := by
  obtain ⟨e1, e2⟩ := hc.slotLoc_bound h
  unfold nodeRecLen at e1
  omega

theorem ItemAt.encodable {f : Bytes} {bound : Nat} {i : Item} {il : Ploc} (h : ItemAt f bound i il)
    (hB : bound < 2^32) : il.off < 2^64 ∧ il.len < 2^32 ∧ ¬ (il.off = 0 ∧ il.len = 0) := by
  obtain ⟨e1, e2, _⟩ := h
  unfold itemRecLen itemHdrLen at e1
  omega

theorem loadTree_of_coherent_height (f : Bytes) (bound : Nat) (t : Tree)
    (hc : t.Coherent f bound) (hp : t.Persisted) (fuel : Nat) (hf : t.height < fuel) :
    loadTree f fuel t.slotLoc = some t := by
  induction t generalizing fuel with
  | nil => cases fuel <;> rfl
  | node l i a b r p q ihl ihr =>
    obtain ⟨loc, rfl⟩ := Option.isSome_iff_exists.mp hp
    obtain ⟨hl, hr, hq, hn⟩ := hc
    obtain ⟨⟨_, _, dn⟩, hqs, pl, pr⟩ := hn loc rfl
    obtain ⟨il, rfl⟩ := Option.isSome_iff_exists.mp hqs
    match fuel, hf with
    | fuel + 1, hf =>
      have hh := Nat.max_lt.mp (Nat.lt_of_succ_lt_succ hf)
      show loadTree f (fuel + 1) (some loc) = _
      simp only [loadTree, dn, (hq il rfl).2.2, ihl hl pl fuel hh.1, ihr hr pr fuel hh.2,
        Option.bind_eq_bind, Option.bind_some]

theorem loadTree_of_coherent (f : Bytes) (bound : Nat) (t : Tree) (hc : t.Coherent f bound)
    (hp : t.Persisted) (fuel : Nat) (hf : t.size < fuel) : loadTree f fuel t.slotLoc = some t :=
  loadTree_of_coherent_height f bound t hc hp fuel
    (Nat.lt_of_le_of_lt (Tree.height_le_size t) hf)

theorem itemStep_itemAt (s : FileSt) (i : Item) (hs : s.Wf) (hok : ItemOK i)
    (h : (itemStep s i).failed = false) :
    ItemAt (itemStep s i).bytes (itemStep s i).size i ⟨s.size, itemRecLen i⟩ := by
  obtain ⟨_, e, z⟩ := itemStep_ok s i hs h
  have := decItem_at (s.bytes.take s.size) (s.bytes.drop (s.size + (encItem i).length)) i hok
  rw [List.length_take, Nat.min_eq_left hs] at this
  rw [e, z]
  exact ⟨rfl, Nat.le_refl _, this⟩

theorem recStep_nodeAt (s : FileSt) (n : NodeRec) (hs : s.Wf) (hn : NodeOK n)
    (h : (recStep s (encNode n) nodeRecLen).failed = false) :
    NodeAt (recStep s (encNode n) nodeRecLen).bytes (recStep s (encNode n) nodeRecLen).size n
      ⟨s.size, nodeRecLen⟩ := by
  obtain ⟨_, e, z⟩ := recStep_ok s _ _ h
  have := decNode_at (s.bytes.take s.size) (s.bytes.drop (s.size + (encNode n).length)) n hn
  rw [List.length_take, Nat.min_eq_left hs] at this
  rw [e, z]
  exact ⟨rfl, Nat.le_refl _, this⟩

theorem Tree.Coherent.node_none {f : Bytes} {bound : Nat} {l r : Tree} {i : Item} {a b : Nat}
    {q : Option Ploc} (hl : l.Coherent f bound) (hr : r.Coherent f bound)
    (hq : ∀ il, q = some il → ItemAt f bound i il) : (Tree.node l i a b r none q).Coherent f bound :=
  ⟨hl, hr, hq, fun _ h => nomatch h⟩

theorem writeItems_coherent_any (t : Tree) (s : FileSt) (hsz : s.Wf)
    (hc : t.Coherent s.bytes s.size) (hok : t.SizesOK) :
    (writeItems t s).1.Coherent (writeItems t s).2.bytes (writeItems t s).2.size ∧
      ((writeItems t s).2.failed = false → (writeItems t s).1.ItemsDone) := by
  induction t generalizing s with
  | nil => exact ⟨trivial, fun _ => trivial⟩
  | node l i a b r p q ihl ihr =>
    cases p with
    | some p => exact ⟨hc, fun _ => Or.inl rfl⟩
    | none =>
      obtain ⟨hcl, hcr, hci, _⟩ := hc
      obtain ⟨hoi, _, _, hol, hor⟩ := hok
      have S1 := writeItems_steps l s
      have W1 := S1.wf hsz
      obtain ⟨cl, dl⟩ := ihl s hsz hcl hol
      cases q with
      | some il =>
        rw [writeItems_node_ns]
        have S2 := writeItems_steps r (writeItems l s).2
        obtain ⟨cr, dr⟩ := ihr _ W1 (hcr.steps S1 hsz) hor
        exact ⟨.node_none (cl.steps S2 W1) cr fun il' h => (hci il' h).steps (S1.trans S2) hsz,
          fun hf => Or.inr ⟨rfl, dl (S2.unfailed hf), dr hf⟩⟩
      | none =>
        have S2 : Steps (writeItems l s).2 (itemStep (writeItems l s).2 i) := (Steps.refl _).item i
        have W2 := S2.wf W1
        have S3 := writeItems_steps r (itemStep (writeItems l s).2 i)
        obtain ⟨cr, dr⟩ := ihr _ W2 (hcr.steps (S1.trans S2) hsz) hor
        rw [writeItems_node_nn]
        refine ⟨.node_none (cl.steps (S2.trans S3) W1) cr fun il' h => ?_, fun hf => ?_⟩
        · obtain ⟨hf2, ⟨⟩⟩ := Option.ite_none_left_eq_some.mp h
          exact (itemStep_itemAt _ i W1 hoi (Bool.eq_false_iff.mpr hf2)).steps S3 W2
        · have hf2 := S3.unfailed hf
          exact Or.inr ⟨by rw [hf2]; rfl, dl (S2.unfailed hf2), dr hf⟩

theorem writeNodes_coherent_any (t : Tree) (s : FileSt) (hsz : s.Wf)
    (hc : t.Coherent s.bytes s.size) (hid : t.ItemsDone) (hok : t.SizesOK)
    (hlim : (writeNodes t s).2.size < 2^32) :
    (writeNodes t s).1.Coherent (writeNodes t s).2.bytes (writeNodes t s).2.size ∧
      ((writeNodes t s).2.failed = false → (writeNodes t s).1.Persisted) := by
  induction t generalizing s with
  | nil => exact ⟨trivial, fun _ => trivial⟩
  | node l i a b r p q ihl ihr =>
    cases p with
    | some p => exact ⟨hc, fun _ => rfl⟩
    | none =>
      obtain ⟨hcl, hcr, hci, _⟩ := hc
      obtain ⟨hoi, ha, hb, hol, hor⟩ := hok
      obtain ⟨hq, dl, dr⟩ := hid.resolve_left Bool.noConfusion
      have S1 := writeNodes_steps l s
      have W1 := S1.wf hsz
      have S2 := writeNodes_steps r (writeNodes l s).2
      have W2 := S2.wf W1
      have S3 : Steps (writeNodes r (writeNodes l s).2).2 (recStep (writeNodes r (writeNodes l s).2).2
          (nodeRecOf (writeNodes l s).1 (writeNodes r (writeNodes l s).2).1 a b q) nodeRecLen) :=
        (Steps.refl _).record _ (encNode_length _).symm
      rw [writeNodes_node_n] at hlim ⊢
      have hB := Nat.lt_of_le_of_lt S3.frame.size_mono hlim
      obtain ⟨cl, pl⟩ := ihl s hsz hcl dl hol (Nat.lt_of_le_of_lt S2.frame.size_mono hB)
      obtain ⟨cr, pr⟩ := ihr _ W1 (hcr.steps S1 hsz) dr hor hB
      -- all of it is read in the final file, whose size bounds every location
      have cl := cl.steps (S2.trans S3) W1
      have cr := cr.steps S3 W2
      have hit := fun il (hil : q = some il) => (hci il hil).steps ((S1.trans S2).trans S3) hsz
      refine ⟨⟨cl, cr, hit, fun loc hloc => ?_⟩, fun hf => by rw [hf]; rfl⟩
      obtain ⟨hf3, ⟨⟩⟩ := Option.ite_none_left_eq_some.mp hloc
      have hf3 := Bool.eq_false_iff.mpr hf3
      have hf2 := S3.unfailed hf3
      exact ⟨recStep_nodeAt _ ⟨q, _, _, a, b⟩ W2 ⟨fun il hil => (hit il hil).encodable hlim,
          fun _ => cl.slotLoc_encodable hlim, fun _ => cr.slotLoc_encodable hlim, ha, hb⟩ hf3,
        hq, pl (S2.unfailed hf2), pr hf2⟩

theorem sizesOK_eraseLocs (t : Tree) : t.eraseLocs.SizesOK ↔ t.SizesOK := by
  induction t with
  | nil => exact Iff.rfl
  | node l i a b r p q ihl ihr =>
    simp only [Tree.eraseLocs, Tree.SizesOK]
    rw [ihl, ihr]

theorem writeItems_sizesOK (t : Tree) (s : FileSt) (h : t.SizesOK) : (writeItems t s).1.SizesOK := by
  rw [← sizesOK_eraseLocs, writeItems_eraseLocs, sizesOK_eraseLocs]
  exact h

/-- `Collection.write` keeps coherence under any plan; if it did not fail, the root is persisted -/
theorem writeTree_coherent_any (t : Tree) (s : FileSt) (hsz : s.Wf)
    (hc : t.Coherent s.bytes s.size) (hok : t.SizesOK) (hlim : (writeTree t s).2.size < 2^32) :
    (writeTree t s).1.Coherent (writeTree t s).2.bytes (writeTree t s).2.size ∧
      ((writeTree t s).2.failed = false → (writeTree t s).1.Persisted) := by
  obtain ⟨ci, di⟩ := writeItems_coherent_any t s hsz hc hok
  rw [writeTree_eq] at hlim ⊢
  cases hf : (writeItems t s).2.failed with
  | true =>
    rw [writeNodes_failed_id _ _ hf]
    exact ⟨ci, fun h => nomatch hf.symm.trans h⟩
  | false =>
    exact writeNodes_coherent_any _ _ ((writeItems_steps t s).wf hsz) ci (di hf)
      (writeItems_sizesOK t s hok) hlim

/-- the first loop of `Store.Flush` keeps coherence under any plan; if it did not fail, every root
    is persisted -/
theorem flushColls_coherent_any (cs : List Coll) (s : FileSt) (hsz : s.Wf)
    (hc : ∀ c ∈ cs, c.root.Coherent s.bytes s.size) (hok : ∀ c ∈ cs, c.root.SizesOK)
    (hlim : (flushColls cs s).2.size < 2^32) :
    ∀ c ∈ (flushColls cs s).1,
      c.root.Coherent (flushColls cs s).2.bytes (flushColls cs s).2.size ∧
        ((flushColls cs s).2.failed = false → c.root.Persisted) := by
  induction cs generalizing s with
  | nil => exact fun _ h => nomatch h
  | cons c rest ih =>
    rw [flushColls_cons] at hlim ⊢
    have S1 := writeTree_steps c.root s
    have S2 := flushColls_steps rest (writeTree c.root s).2
    have W1 := S1.wf hsz
    obtain ⟨hc0, hcr⟩ := List.forall_mem_cons.mp hc
    obtain ⟨ho0, hor⟩ := List.forall_mem_cons.mp hok
    obtain ⟨c1, p1⟩ := writeTree_coherent_any c.root s hsz hc0 ho0
      (Nat.lt_of_le_of_lt S2.frame.size_mono hlim)
    exact List.forall_mem_cons.mpr ⟨⟨c1.steps S2 W1, fun hf => p1 (S2.unfailed hf)⟩,
      ih _ W1 (fun d hd => (hcr d hd).steps S1 hsz) hor hlim⟩

/-- a failed (or any) flush keeps cached trees coherent with the file, so a retried Flush is an
    ordinary Flush; after one that did not fail every root is persisted -/
theorem flushStore_coherent_any (cs : List Coll) (s : FileSt) (hsz : s.Wf)
    (hc : ∀ c ∈ cs, c.root.Coherent s.bytes s.size) (hok : ∀ c ∈ cs, c.root.SizesOK)
    (hlim : (flushStore cs s).2.size < 2^32) :
    ∀ c ∈ (flushStore cs s).1,
      c.root.Coherent (flushStore cs s).2.bytes (flushStore cs s).2.size ∧
        ((flushStore cs s).2.failed = false → c.root.Persisted) := by
  have S2 : Steps (flushColls cs s).2 (recStep (flushColls cs s).2
      (encRoot (flushColls cs s).2.size (rootEntries (flushColls cs s).1))
      (encRoot (flushColls cs s).2.size (rootEntries (flushColls cs s).1)).length) :=
    (Steps.refl _).record _ rfl
  rw [flushStore_eq] at hlim ⊢
  intro c hcm
  obtain ⟨cc, cp⟩ := flushColls_coherent_any cs s hsz hc hok
    (Nat.lt_of_le_of_lt S2.frame.size_mono hlim) c hcm
  exact ⟨cc.steps S2 ((flushColls_steps cs s).wf hsz), fun hf => cp (S2.unfailed hf)⟩

theorem flushColls_coherent (cs : List Coll) (s : FileSt) (hn : s.Clean)
    (hsz : s.size ≤ s.bytes.length) (hc : ∀ c ∈ cs, c.root.Coherent s.bytes s.size)
    (hok : ∀ c ∈ cs, c.root.SizesOK) (hlim : (flushColls cs s).2.size < 2^32) :
    ∀ c ∈ (flushColls cs s).1,
      c.root.Coherent (flushColls cs s).2.bytes (flushColls cs s).2.size ∧ c.root.Persisted :=
  fun c hcm => (flushColls_coherent_any cs s hsz hc hok hlim c hcm).imp_right
    (· ((flushColls_steps cs s).frame.noplan hn).1)

/-- every collection of a store flushed without a fault is persisted and coherent with the new
    file (so the invariant "the cached trees are coherent with the file" is kept by `Flush`) -/
theorem flushStore_coherent (cs : List Coll) (s : FileSt) (hf : s.failed = false)
    (hp : s.failAt = none) (hsz : s.size ≤ s.bytes.length)
    (hc : ∀ c ∈ cs, c.root.Coherent s.bytes s.size) (hok : ∀ c ∈ cs, c.root.SizesOK)
    (hlim : (flushStore cs s).2.size < 2^32) :
    ∀ c ∈ (flushStore cs s).1,
      c.root.Coherent (flushStore cs s).2.bytes (flushStore cs s).2.size ∧ c.root.Persisted :=
  fun c hcm => (flushStore_coherent_any cs s hsz hc hok hlim c hcm).imp_right
    (· ((flushStore_steps cs s).frame.noplan ⟨hf, hp⟩).1)

/-! ### a coherent persisted tree is no deeper than the file is long

Two nodes on one root-to-leaf path cannot share a record: a coherent persisted tree is determined
by its slot location (it is what `loadTree` returns), so an ancestor and a descendant with the
same location would be equal trees of different sizes.  Hence the offsets along a path are
pairwise distinct numbers below `bound` (pigeonhole).  (The *size* of such a tree is not bounded
by the file length: two children may share one record.) -/

/-- the offset of its record determines a coherent persisted tree: the record has the length of a
    node record, and the tree is what `loadTree` returns for that location -/
theorem coherent_eq_of_off {f : Bytes} {bound : Nat} {x y : Tree} (hx : x.Coherent f bound)
    (px : x.Persisted) (hy : y.Coherent f bound) (py : y.Persisted) {p q : Ploc}
    (hp : x.slotLoc = some p) (hq : y.slotLoc = some q) (h : p.off = q.off) : x = y := by
  have e : p = q := by
    cases p; cases q
    exact congr (congrArg Ploc.mk h) ((hx.slotLoc_bound hp).1.trans (hy.slotLoc_bound hq).1.symm)
  have e1 := loadTree_of_coherent f bound x hx px (x.size + y.size + 1) (by omega)
  have e2 := loadTree_of_coherent f bound y hy py (x.size + y.size + 1) (by omega)
  rw [hp, e, ← hq, e2] at e1
  exact (Option.some.inj e1).symm

/-- `anc` are offsets of records of strictly bigger trees (the ancestors of `t`) -/
theorem height_add_anc_le (f : Bytes) (bound : Nat) (t : Tree) (hc : t.Coherent f bound)
    (hp : t.Persisted) (anc : List Nat) (hd : anc.Nodup) (hb : ∀ o ∈ anc, o < bound)
    (hbig : ∀ y : Tree, y.Coherent f bound → y.Persisted →
      ∀ p, y.slotLoc = some p → p.off ∈ anc → t.size < y.size) :
    t.height + anc.length ≤ bound := by
  induction t generalizing anc with
  | nil =>
    -- pigeonhole: distinct numbers below `bound`
    have := hd.length_le_of_subset fun x hx => List.mem_range.mpr (hb x hx)
    rw [List.length_range] at this
    rwa [Tree.height, Nat.zero_add]
  | node l i a b r p q ihl ihr =>
    cases p with
    | none => cases hp
    | some loc =>
      obtain ⟨⟨n1, n2, _⟩, _, pl, pr⟩ := hc.2.2.2 loc rfl
      -- only the tree itself is recorded at `loc.off`, so `loc.off` is new, and whatever is smaller
      -- than the tree is smaller than what is recorded there
      have hd' : (loc.off :: anc).Nodup :=
        List.nodup_cons.mpr ⟨fun hm => Nat.lt_irrefl _ (hbig _ hc hp loc rfl hm), hd⟩
      have hb' : ∀ o ∈ loc.off :: anc, o < bound :=
        List.forall_mem_cons.mpr ⟨by unfold nodeRecLen at n1; omega, hb⟩
      have key : ∀ c : Tree, c.size < (Tree.node l i a b r (some loc) q).size →
          ∀ y : Tree, y.Coherent f bound → y.Persisted →
            ∀ p, y.slotLoc = some p → p.off ∈ loc.off :: anc → c.size < y.size :=
        fun c csz y yc yp p hyp hm => (List.mem_cons.mp hm).elim
          (fun e => coherent_eq_of_off yc yp hc hp hyp rfl e ▸ csz)
          (fun hm => Nat.lt_trans csz (hbig y yc yp p hyp hm))
      -- `max hl hr + 1 + n = max (hl + n) (hr + n) + 1`, and `_ + 1 ≤ bound` is `_ < bound`
      rw [Tree.height, Nat.add_right_comm, ← Nat.add_max_add_right]
      exact Nat.max_lt.mpr
        ⟨ihl hc.1 pl _ hd' hb' (key l (Nat.lt_of_lt_of_le (Nat.lt_succ_self _) (Nat.le_add_right _ _))),
          ihr hc.2.1 pr _ hd' hb' (key r (Nat.lt_add_of_pos_left (Nat.succ_pos _)))⟩

theorem coherent_height_le (f : Bytes) (bound : Nat) (t : Tree) (hc : t.Coherent f bound)
    (hp : t.Persisted) : t.height ≤ bound := by
  have := height_add_anc_le f bound t hc hp [] List.nodup_nil (fun _ ho => nomatch ho)
    (fun _ _ _ _ _ ho => nomatch ho)
  simpa using this

/-- what the API can observe of the flushed collections (names, comparators, in-order item lists,
    aggregates) is what it could observe before the flush -/
theorem flushStore_contents (cs : List Coll) (s : FileSt) :
    (flushStore cs s).1.map (fun c => (c.name, c.cmp, c.root.toList, c.root.nn, c.root.nb))
      = cs.map (fun c => (c.name, c.cmp, c.root.toList, c.root.nn, c.root.nb)) := by
  have h := congrArg
    (List.map (fun x : Bytes × CmpKind × Tree => (x.1, x.2.1, x.2.2.toList, x.2.2.nn, x.2.2.nb)))
    (flushStore_eraseLocs cs s)
  simp only [List.map_map, Function.comp_def, toList_eraseLocs, nn_eraseLocs, nb_eraseLocs] at h
  exact h

/-! ### the hypotheses are satisfiable: trees built in memory are coherent -/

theorem coherent_eraseLocs (f : Bytes) (bound : Nat) (t : Tree) : t.eraseLocs.Coherent f bound := by
  induction t with
  | nil => trivial
  | node l i a b r p q ihl ihr => exact .node_none ihl ihr fun _ h => nomatch h

#print axioms loadTree_of_coherent
#print axioms coherent_of_prefix
#print axioms flushColls_coherent
#print axioms coherent_height_le
#print axioms flushStore_coherent

end Gkv
