/-
Proofs for `Gkv.Model.CopyRace`: the repaired read order of `itemLoc.Copy` never yields an unusable
copy, whatever runs between the two reads; the pinned order does (defect F16).
-/
import Gkv.Model.CopyRace
namespace Gkv.CopyRace

/-! The one-step facts are tables over the four slots and three events. -/

theorem step_ok (s : Slot) (e : Ev) : s.ok = true → (step s e).ok = true := by
  obtain ⟨l, i⟩ := s
  cases e <;> cases l <;> cases i <;> decide

theorem run_ok (s : Slot) (es : List Ev) (h : s.ok = true) : (run s es).ok = true :=
  List.foldlRecOn es step h fun t ht e _ => step_ok t e ht

theorem step_loc_mono (s : Slot) (e : Ev) : s.loc = true → (step s e).loc = true := by
  obtain ⟨l, i⟩ := s
  cases e <;> cases l <;> cases i <;> decide

theorem run_loc_mono (s : Slot) (es : List Ev) (h : s.loc = true) : (run s es).loc = true :=
  List.foldlRecOn es step h fun t ht e _ => step_loc_mono t e ht

theorem step_item_mono (s : Slot) (e : Ev) : e ≠ .evict → s.item = true → (step s e).item = true := by
  obtain ⟨l, i⟩ := s
  cases e <;> cases l <;> cases i <;> decide

theorem Slot.ok_iff (s : Slot) : s.ok = true ↔ s.loc = true ∨ s.item = true := Bool.or_eq_true_iff

/-- THE REPAIR IS RIGHT: reading the item first and the location afterwards gives a usable copy
    for every usable source and every sequence of flushes, evictions and reloads in between -/
theorem copyItemFirst_ok (s : Slot) (es : List Ev) (h : s.ok = true) : (copyItemFirst s es).ok = true :=
  (Slot.ok_iff _).2 <| ((Slot.ok_iff s).1 h).imp_left (run_loc_mono s es)

/-- THE PINNED ORDER IS WRONG: a dirty cached item (no location yet), a Flush, then an eviction,
    between the two reads — the copy has neither a location nor an item -/
theorem copyLocFirst_broken :
    let s : Slot := { loc := false, item := true }
    s.ok = true ∧ (copyLocFirst s [.flush, .evict]).ok = false := by decide

/-- and those two events are necessary in that order: with no eviction after a flush in between,
    the pinned order is harmless as well -/
theorem copyLocFirst_ok_without_evict (s : Slot) (es : List Ev) (h : s.ok = true)
    (hne : ∀ e ∈ es, e ≠ .evict) : (copyLocFirst s es).ok = true :=
  (Slot.ok_iff _).2 <| ((Slot.ok_iff s).1 h).imp_right fun hi =>
    List.foldlRecOn es step hi fun t ht e he => step_item_mono t e (hne e he) ht

-- non-vacuity: the repaired order on the very schedule that breaks the pinned one
example : (copyItemFirst { loc := false, item := true } [.flush, .evict]).ok = true := by decide
example : run { loc := false, item := true } [.flush, .evict, .reload] = { loc := true, item := true } := by decide

end Gkv.CopyRace

#print axioms Gkv.CopyRace.copyItemFirst_ok
#print axioms Gkv.CopyRace.copyLocFirst_broken
#print axioms Gkv.CopyRace.copyLocFirst_ok_without_evict
