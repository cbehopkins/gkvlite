/-
Round trips of the binary records of `Gkv.Model.Codec`: what an encoder wrote the strict decoder
reads back, under the size bounds of the fields -- big-endian integers, plocs, node records, item
records, and the frame of a root record around any JSON text (`rootAt_frame`).  A record is a
concatenation of fields and a decoder reads a field at the sum of the lengths before it:
`drop_append_len` moves a `drop` past a whole field, and with the lengths of the fields `simp`
computes every slice `(b.drop k).take w` of a record written as a right-nested `++`.  The JSON map
itself is in `Proofs/CodecFull.lean`.
-/
import Gkv.Proofs.Bytes

namespace Gkv

theorem drop_append_len {a r : Bytes} {k : Nat} (h : a.length ≤ k) :
    (a ++ r).drop k = r.drop (k - a.length) := by
  rw [List.drop_append, List.drop_eq_nil_of_le h, List.nil_append]

/-- `readAt_mid` for a file that is `a ++ b ++ c` up to bracketing, at an offset that is `|a|` up to
    arithmetic: the caller says what lies before and after what is read -/
theorem readAt_of_append {f a b c : Bytes} {k w : Nat} (e : a ++ b ++ c = f) (hk : a.length = k)
    (hw : b.length = w) : readAt f k w = some b := by
  subst e hk hw
  exact readAt_mid a b c

theorem readAt_writeAt_end (f b : Bytes) :
    readAt (writeAt f f.length b) f.length b.length = some b :=
  readAt_of_append (c := []) (by rw [writeAt_end, List.append_nil]) rfl rfl

theorem unbe_snoc (a : Bytes) (x : UInt8) : unbe (a ++ [x]) = unbe a * 256 + x.toNat := by
  unfold unbe
  rw [List.foldl_append]
  rfl

/-- without a bound on `n`, so that `simp` can use it on every field it has cut out -/
theorem unbe_be (w n : Nat) : unbe (be w n) = n % 256 ^ w := by
  induction w generalizing n with
  | zero => exact (Nat.mod_one n).symm
  | succ w ih =>
    rw [Nat.pow_succ', Nat.mod_mul, be, unbe_snoc, ih, UInt8.toNat_ofNat']
    omega

theorem decPloc_be (o l : Nat) :
    decPloc (be 8 o ++ be 4 l) =
      if o % 256 ^ 8 = 0 ∧ l % 256 ^ 4 = 0 then none else some ⟨o % 256 ^ 8, l % 256 ^ 4⟩ := by
  unfold decPloc
  rw [List.take_left' (be_length 8 o), List.drop_left' (be_length 8 o),
    List.take_of_length_le (Nat.le_of_eq (be_length 4 l)), unbe_be, unbe_be]

/-- locations a 12-byte ploc can hold: u64 offset, u32 length, and not the all-zero ploc, which
    stands for "absent" -/
def PlocOK (p : Option Ploc) : Prop :=
  ∀ q, p = some q → q.off < 2^64 ∧ q.len < 2^32 ∧ ¬ (q.off = 0 ∧ q.len = 0)

/-- node records within which the codec round-trips: encodable locations, u64 aggregates -/
def NodeOK (n : NodeRec) : Prop :=
  PlocOK n.item ∧ PlocOK n.left ∧ PlocOK n.right ∧ n.nn < 2^64 ∧ n.nb < 2^64

/-- sizes within which the codecs round-trip (Go uses uint32 lengths, uint64 aggregates) -/
def ItemOK (i : Item) : Prop :=
  i.key.length < 2^32 ∧ i.val.length < 2^32 ∧ i.prio < 2^32 ∧
    itemHdrLen + i.key.length + i.val.length < 2^32

theorem decPloc_encPloc (p : Option Ploc) (hp : PlocOK p) : decPloc (encPloc p) = p := by
  cases p with
  | none => exact (decPloc_be 0 0).trans (if_pos ⟨rfl, rfl⟩)
  | some q =>
    obtain ⟨h1, h2, h3⟩ := hp q rfl
    rw [encPloc, decPloc_be, Nat.mod_eq_of_lt h1, Nat.mod_eq_of_lt h2, if_neg h3]

theorem decNodeBytes_encNode (n : NodeRec) (h : NodeOK n) : decNodeBytes (encNode n) = n := by
  obtain ⟨hi, hl, hr, hn, hb⟩ := h
  simp only [decNodeBytes, encNode, List.append_assoc, drop_append_len, List.take_left',
    List.take_of_length_le, be_length, encPloc_length, List.drop_zero, unbe_be, Nat.le_refl,
    Nat.reduceLeDiff, Nat.reduceSub, decPloc_encPloc, hi, hl, hr]
  rw [Nat.mod_eq_of_lt hn, Nat.mod_eq_of_lt hb]

theorem decNode_at (pre post : Bytes) (n : NodeRec) (h : NodeOK n) :
    decNode (pre ++ encNode n ++ post) ⟨pre.length, nodeRecLen⟩ = some n :=
  (decNode_eq_some ..).mpr
    ⟨rfl, _, readAt_of_append rfl rfl (encNode_length n), decNodeBytes_encNode n h⟩

theorem decItem_at (pre post : Bytes) (i : Item) (h : ItemOK i) :
    decItem (pre ++ encItem i ++ post) ⟨pre.length, itemRecLen i⟩ = some i := by
  obtain ⟨hk, hv, hp, ht⟩ := h
  have hd : (be 4 (itemRecLen i) ++ be 4 i.key.length ++ be 4 i.val.length ++ be 4 i.prio).length
      = itemHdrLen := by
    simp only [List.length_append, be_length]; rfl
  -- the record is `hdr ++ key ++ val`, the header four big-endian words; three reads, each given
  -- with what lies before and after it in the file
  refine (decItem_eq_some ..).mpr
    ⟨Nat.not_lt.mpr (Nat.le_trans (Nat.le_add_right ..) (Nat.le_add_right ..)), _,
      readAt_of_append (a := pre) (c := i.key ++ i.val ++ post) ?_ rfl hd, ?_⟩
  · simp only [encItem, encItemHdrKey, itemRecLen, List.append_assoc]
  simp only [List.append_assoc, drop_append_len, List.take_left', List.take_of_length_le, be_length,
    List.drop_zero, unbe_be, Nat.le_refl, Nat.reduceLeDiff, Nat.reduceSub]
  refine ⟨rfl, Nat.mod_eq_of_lt hk, Nat.mod_eq_of_lt hv, Nat.mod_eq_of_lt hp,
    readAt_of_append (a := pre ++ _) (c := i.val ++ post) ?_ (by rw [List.length_append, hd]) rfl,
    readAt_of_append (a := pre ++ _ ++ i.key) (c := post) ?_
      (by rw [List.length_append, List.length_append, hd]) rfl⟩
  all_goals simp only [encItem, encItemHdrKey, itemRecLen, List.append_assoc]

theorem encRoot_length (off : Nat) (es : List (Bytes × Option Ploc)) :
    (encRoot off es).length = rootsLen + (encJson es).length := by
  unfold encRoot rootsLen
  simp only [List.length_append, be_length, show magicBeg.length = 6 from rfl,
    show magicEnd.length = 6 from rfl]
  omega

/-- The frame of a root record around any text `js`: `rootAt` reads `tail` first, then `data`, and
    hands `js` to `decJson`.  Both copies of the length are compared modulo `2^32`, as they are
    stored, so the only bound needed is that the offset fits the signed 64-bit field. -/
theorem rootAt_frame {f pre js data tail : Bytes} {len : Nat} (hf : pre ++ data ++ tail = f)
    (hd : data = magicBeg ++ magicBeg ++ be 4 fmtVersion ++ be 4 len ++ js)
    (ht : tail = be 8 pre.length ++ be 4 len ++ magicEnd ++ magicEnd)
    (hl : len = rootsLen + js.length) (hj : 0 < js.length) (hsz : pre.length < 2^63) :
    rootAt f (pre.length + len) = decJson js := by
  have hm : magicBeg.length = 6 ∧ magicEnd.length = 6 := ⟨rfl, rfl⟩
  have hdl : data.length + rootsEndLen = len := by
    simp only [hd, hl, List.length_append, be_length, hm, rootsLen, rootsEndLen]; omega
  have htl : tail.length = rootsEndLen := by
    simp only [ht, List.length_append, be_length, hm, rootsEndLen]
  rw [rootAt_eq, if_neg (by omega),
    readAt_of_append (c := []) (by rw [List.append_nil, hf]) (by rw [List.length_append]; omega) htl]
  -- the four fields of `tail`, cut out and decoded in place
  simp only [Option.bind_some, ht, List.append_assoc, drop_append_len, List.take_left', be_length, hm,
    List.drop_zero, unbe_be, Nat.le_refl, Nat.reduceLeDiff, Nat.reduceSub, ne_eq, not_true_eq_false,
    or_self, reduceIte]
  rw [Nat.mod_eq_of_lt (a := pre.length) (by omega),
    if_neg (not_not_intro ⟨by omega, by omega, by rw [Nat.add_sub_cancel_left]⟩),
    readAt_of_append hf rfl (by omega)]
  -- the five fields of `data`
  simp only [Option.bind_some, hd, List.append_assoc, drop_append_len, List.take_left', be_length, hm,
    List.drop_zero, unbe_be, Nat.le_refl, Nat.reduceLeDiff, Nat.reduceSub, not_true_eq_false, or_self,
    reduceIte]
  exact if_neg (by decide)

end Gkv
