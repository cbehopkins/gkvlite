/-
Property C11 "CopyTo produces an equivalent copy".

`copyTo` re-inserts every item of every source collection, in ascending key order, into a fresh
destination store, flushing the destination every `fe` items.  The flushes change nothing but file
locations, and the in-memory algorithms never look at locations (`EraseLocs.lean`), so up to
locations the destination is what the flush-free copy builds (`copyTo_strip`); and that is,
collection by collection, the sorted map rebuilt by ascending inserts, i.e. the source item list.
-/
import Gkv.Proofs.TreapSet
import Gkv.Proofs.EraseLocs
import Gkv.Proofs.FlushFrame
import Gkv.Proofs.Colls
open Std

namespace Gkv

open Tree

theorem insert_append_gt (cmp : Bytes → Bytes → Ordering) (p : List Item) (i : Item)
    (h : ∀ j ∈ p, cmp i.key j.key = .gt) : Spec.insert cmp p i = p ++ [i] := by
  induction p with
  | nil => rfl
  | cons j p ih =>
    simp only [Spec.insert, h j (List.mem_cons_self ..), List.cons_append]
    rw [ih (fun x hx => h x (List.mem_cons_of_mem _ hx))]

theorem insert_all_sorted (cmp : Bytes → Bytes → Ordering) [Std.OrientedCmp cmp]
    (l p : List Item) (h : Spec.Sorted cmp (p ++ l)) :
    l.foldl (Spec.insert cmp) p = p ++ l := by
  induction l generalizing p with
  | nil => simp
  | cons i l ih =>
    rw [List.foldl_cons]
    have hp : ∀ j ∈ p, cmp i.key j.key = .gt := by
      intro j hj
      have := (List.pairwise_append.mp h).2.2 j hj i (List.mem_cons_self ..)
      exact OrientedCmp.gt_of_lt this
    rw [insert_append_gt cmp p i hp]
    have h' : Spec.Sorted cmp ((p ++ [i]) ++ l) := by
      rw [List.append_assoc]; exact h
    rw [ih (p ++ [i]) h', List.append_assoc]
    rfl

theorem foldl_setItem_sorted (cmp : Bytes → Bytes → Ordering) [Std.TransCmp cmp] (l : List Item)
    (t : Tree) (ht : Tree.BST cmp t) :
    Tree.BST cmp (l.foldl (Tree.setItem cmp) t) ∧
      (l.foldl (Tree.setItem cmp) t).toList = l.foldl (Spec.insert cmp) t.toList := by
  induction l generalizing t with
  | nil => exact ⟨ht, rfl⟩
  | cons i l ih =>
    rw [List.foldl_cons, List.foldl_cons, ← Tree.setItem_toList cmp ht i]
    exact ih _ (Tree.setItem_bst cmp ht i)

/-- ascending inserts rebuild the item list of a search tree -/
theorem foldl_setItem_toList (cmp : Bytes → Bytes → Ordering) [Std.TransCmp cmp] {t : Tree}
    (h : Tree.BST cmp t) : (t.toList.foldl (Tree.setItem cmp) .nil).toList = t.toList :=
  (foldl_setItem_sorted cmp t.toList .nil trivial).2.trans
    (insert_all_sorted cmp t.toList [] (Tree.toList_sorted cmp h))

/-- the collection `copyItems` works on -/
def copyCur (name : Bytes) (cmp : CmpKind) (cs : List Coll) : Coll :=
  (collsGet name cs).getD ⟨name, cmp, .nil⟩

/-- one `SetItem` of `copyItems` -/
def copyStep (name : Bytes) (cmp : CmpKind) (cs : List Coll) (i : Item) : List Coll :=
  collsSet { copyCur name cmp cs with root := Tree.setItem cmp.fn (copyCur name cmp cs).root i } cs

theorem copyItems_cons (fe : Nat) (name : Bytes) (cmp : CmpKind) (i : Item) (rest : List Item)
    (n : Nat) (cs : List Coll) (s : FileSt) :
    copyItems fe name cmp (i :: rest) n cs s =
      if fe > 0 ∧ (n + 1) % fe = 0 then
        copyItems fe name cmp rest (n + 1) (flushStore (copyStep name cmp cs i) s).1
          (flushStore (copyStep name cmp cs i) s).2
      else copyItems fe name cmp rest (n + 1) (copyStep name cmp cs i) s := rfl

theorem copyItems_zero_cons (name : Bytes) (cmp : CmpKind) (i : Item) (rest : List Item) (n : Nat)
    (cs : List Coll) (s : FileSt) :
    copyItems 0 name cmp (i :: rest) n cs s =
      copyItems 0 name cmp rest (n + 1) (copyStep name cmp cs i) s := by
  rw [copyItems_cons, if_neg (by omega)]

theorem copyItems_zero (name : Bytes) (cmp : CmpKind) (is : List Item) (n : Nat)
    (cs : List Coll) (s : FileSt) :
    (copyItems 0 name cmp is n cs s).2 = s := by
  induction is generalizing n cs with
  | nil => rfl
  | cons i rest ih => rw [copyItems_zero_cons]; exact ih _ _

theorem copyCur_collsSet {name : Bytes} (cmp : CmpKind) (cs : List Coll) (d : Coll)
    (hd : d.name = name) : copyCur name cmp (collsSet d cs) = d := by
  unfold copyCur
  rw [← hd, collsGet_collsSet_self]
  rfl

/-- what the API can see of a collection: name, comparator, tree without locations -/
def Coll.strip (c : Coll) : Coll := { c with root := c.root.eraseLocs }

def stripLocs (cs : List Coll) : List Coll := cs.map Coll.strip

theorem stripLocs_cons (c : Coll) (cs : List Coll) : stripLocs (c :: cs) = c.strip :: stripLocs cs :=
  rfl

theorem strip_name (c : Coll) : c.strip.name = c.name := rfl

theorem collsGet_strip (n : Bytes) (cs : List Coll) :
    collsGet n (stripLocs cs) = (collsGet n cs).map Coll.strip := by
  induction cs with
  | nil => rfl
  | cons c cs ih =>
    rw [stripLocs_cons, collsGet, collsGet, strip_name]
    split
    · rfl
    · exact ih

theorem collsSet_strip (d : Coll) (cs : List Coll) :
    stripLocs (collsSet d cs) = collsSet d.strip (stripLocs cs) := by
  induction cs with
  | nil => rfl
  | cons c cs ih =>
    rw [stripLocs_cons, collsSet, collsSet, strip_name, strip_name]
    split
    · rfl
    · rfl
    · rw [stripLocs_cons, ih]

theorem copyCur_strip (name : Bytes) (cmp : CmpKind) (cs : List Coll) :
    copyCur name cmp (stripLocs cs) = (copyCur name cmp cs).strip := by
  unfold copyCur
  rw [collsGet_strip]
  cases collsGet name cs <;> rfl

/-- the in-memory step never looks at locations: on the location-free store it gives the
    location-free result -/
theorem copyStep_strip (name : Bytes) (cmp : CmpKind) (cs : List Coll) (i : Item) :
    copyStep name cmp (stripLocs cs) i = stripLocs (copyStep name cmp cs i) := by
  rw [copyStep, copyStep, collsSet_strip, copyCur_strip]
  exact congrArg (collsSet · _) (congrArg (Coll.mk _ _) (setItem_eraseLocs' cmp.fn _ i))

theorem flushStore_strip (cs : List Coll) (s : FileSt) :
    stripLocs (flushStore cs s).1 = stripLocs cs := by
  have := congrArg (List.map fun x : Bytes × CmpKind × Tree => (⟨x.1, x.2.1, x.2.2⟩ : Coll))
    (flushStore_eraseLocs cs s)
  rw [List.map_map, List.map_map] at this
  exact this

theorem copyItems_strip (fe : Nat) (name : Bytes) (cmp : CmpKind) (is : List Item) (n n' : Nat)
    (cs : List Coll) (s s' : FileSt) :
    stripLocs (copyItems fe name cmp is n cs s).1 =
      (copyItems 0 name cmp is n' (stripLocs cs) s').1 := by
  induction is generalizing n n' cs s with
  | nil => rfl
  | cons i rest ih =>
    rw [copyItems_cons, copyItems_zero_cons, copyStep_strip]
    split
    · rw [ih, flushStore_strip]
    · exact ih _ _ _ _

theorem copyColls_strip (fe : Nat) (src cs : List Coll) (s s' : FileSt) :
    stripLocs (copyColls fe src cs s).1 = (copyColls 0 src (stripLocs cs) s').1 := by
  induction src generalizing cs s s' with
  | nil => rfl
  | cons c rest ih =>
    simp only [copyColls]
    rw [ih, copyItems_strip (n' := 0) (s' := s'), collsSet_strip, copyItems_zero]
    rfl

/-- up to file locations the destination of `CopyTo` is what the flush-free copy builds -/
theorem copyTo_strip (src : List Coll) (fe : Int) :
    stripLocs (copyTo src fe).1 = (copyColls 0 src [] emptyFile).1 := by
  simp only [copyTo]
  split
  · rw [flushStore_strip]; exact copyColls_strip _ src [] _ _
  · exact copyColls_strip _ src [] _ _

theorem copyStep_collsSet (name : Bytes) (cmp : CmpKind) (cs : List Coll) (t : Tree) (i : Item) :
    copyStep name cmp (collsSet ⟨name, cmp, t⟩ cs) i =
      collsSet ⟨name, cmp, Tree.setItem cmp.fn t i⟩ cs := by
  rw [copyStep, copyCur_collsSet cmp cs ⟨name, cmp, t⟩ rfl]
  exact collsSet_collsSet ⟨name, cmp, t⟩ ⟨name, cmp, Tree.setItem cmp.fn t i⟩ rfl cs

theorem copyItems_zero_fold (name : Bytes) (cmp : CmpKind) (is : List Item) (n : Nat)
    (cs : List Coll) (t : Tree) (s : FileSt) :
    (copyItems 0 name cmp is n (collsSet ⟨name, cmp, t⟩ cs) s).1 =
      collsSet ⟨name, cmp, is.foldl (Tree.setItem cmp.fn) t⟩ cs := by
  induction is generalizing n t with
  | nil => rfl
  | cons i rest ih =>
    rw [copyItems_zero_cons, copyStep_collsSet]
    exact ih _ _

/-- what `copyTo_contents` is about: names, comparators, item lists -/
def collsItems (cs : List Coll) : List (Bytes × CmpKind × List Item) :=
  cs.map (fun c => (c.name, c.cmp, c.root.toList))

theorem collsItems_strip (cs : List Coll) : collsItems (stripLocs cs) = collsItems cs := by
  simp only [collsItems, stripLocs, List.map_map, Function.comp_def, Coll.strip, toList_eraseLocs]

/-- the flush-free copy appends, collection by collection, an equivalent of the source (the name
    order is asked of the list of names: it is all that `collsSet` looks at) -/
theorem copyColls_zero_contents (src dst : List Coll) (s : FileSt)
    (hb : ∀ c ∈ src, Tree.BST c.cmp.fn c.root)
    (hnames : ((dst ++ src).map (·.name)).Pairwise (fun a b => compare a b = .lt)) :
    collsItems (copyColls 0 src dst s).1 = collsItems dst ++ collsItems src := by
  induction src generalizing dst s with
  | nil => simp [copyColls, collsItems]
  | cons c rest ih =>
    have hlt : ∀ d ∈ dst, compare d.name c.name = .lt := fun d hd =>
      (List.pairwise_append.mp (List.pairwise_map.mp hnames)).2.2 d hd c (List.mem_cons_self ..)
    -- the step for `c` puts a rebuilt copy of `c` at the end of `dst`
    have e := (copyItems_zero_fold c.name c.cmp c.root.toList 0 dst .nil s).trans
      (collsSet_append_gt dst _ hlt)
    simp only [copyColls]
    rw [e, ih _ _ (fun d hd => hb d (List.mem_cons_of_mem _ hd)) (by
      simpa only [List.map_append, List.map_cons, List.map_nil, List.append_assoc,
        List.cons_append, List.nil_append] using hnames)]
    simp only [collsItems, List.map_append, List.map_cons, List.map_nil, List.append_assoc,
      List.cons_append, List.nil_append, foldl_setItem_toList c.cmp.fn (hb c (List.mem_cons_self ..))]

/-- C11: the destination holds, for every source collection, the same name, comparator and
    item list -/
theorem copyTo_contents (src : List Coll) (fe : Int)
    (hb : ∀ c ∈ src, Tree.BST c.cmp.fn c.root)
    (hnames : src.Pairwise (fun a b => compare a.name b.name = .lt)) :
    (copyTo src fe).1.map (fun c => (c.name, c.cmp, c.root.toList)) =
      src.map (fun c => (c.name, c.cmp, c.root.toList)) := by
  show collsItems (copyTo src fe).1 = collsItems src
  rw [← collsItems_strip, copyTo_strip,
    copyColls_zero_contents src [] emptyFile hb (List.pairwise_map.mpr hnames)]
  rfl

/-- C11, sharper: up to file locations the destination of `CopyTo` does not depend on
    `flushEvery` at all (shapes and aggregates included) -/
theorem copyTo_view_indep (src : List Coll) (fe fe' : Int) :
    (copyTo src fe).1.map (fun c => (c.name, c.cmp, c.root.eraseLocs)) =
      (copyTo src fe').1.map (fun c => (c.name, c.cmp, c.root.eraseLocs)) := by
  have := congrArg (List.map fun c : Coll => (c.name, c.cmp, c.root))
    ((copyTo_strip src fe).trans (copyTo_strip src fe').symm)
  simpa only [stripLocs, List.map_map, Function.comp_def, Coll.strip] using this

end Gkv
