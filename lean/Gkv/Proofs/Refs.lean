/-
Property C15 — proofs about the reference-count event system of `Gkv/Model/Refs.lean`: for every
event sequence that respects the preconditions, the application's count of an item equals the
number of allocated nodes caching it plus the references handed to the caller.
-/
import Gkv.Model.Refs

namespace Gkv.Refs

theorem upd_same {β : Type} (f : Nat → β) (a : Nat) (b : β) : upd f a b a = b := if_pos rfl

theorem upd_other {β : Type} {f : Nat → β} {a : Nat} {b : β} {x : Nat} (h : x ≠ a) :
    upd f a b x = f x := if_neg h

/-- `ItemDecRef` of what a node caches takes one from that item's count and from no other.  The `if` is a
    `Nat` under a cast so that `omega` meets the same atom here and in `cnt_erase`. -/
theorem decCached_apply (c : Nat → Int) (o : Option Nat) (k : Nat) :
    decCached c o k = c k - ((if o = some k then 1 else 0 : Nat) : Int) := by
  cases o with
  | none => simp [decCached]
  | some j =>
    by_cases h : k = j
    · subst h; simp [decCached, upd_same]
    · have : ¬ (some j = some k) := fun e => h (Option.some.inj e).symm
      simp [decCached, upd_other h, this]

/-- the nodes of `l` whose slot in `c` caches item `k`: `holders` with the list of nodes and the slots as
    arguments of their own, since the events change them one by one -/
def cnt (l : List Nat) (c : Nat → Option Nat) (k : Nat) : Nat := l.countP fun m => c m = some k

section cnt
variable {c : Nat → Option Nat} {n : Nat} {v : Option Nat} {k : Nat} {l : List Nat}

theorem cnt_upd_notMem (h : n ∉ l) : cnt l (upd c n v) k = cnt l c k :=
  List.countP_congr fun m hm => by rw [upd_other fun e : m = n => h (e ▸ hm)]

theorem cnt_erase (hn : n ∈ l) : cnt l c k = cnt (l.erase n) c k + (if c n = some k then 1 else 0) := by
  rw [cnt, (List.perm_cons_erase hn).countP_eq, List.countP_cons]; simp [cnt]

theorem cnt_pos (hn : n ∈ l) (h : c n = some k) : 0 < cnt l c k :=
  List.countP_pos_iff.mpr ⟨n, hn, by simp [h]⟩

/-- updating at a node that occurs exactly once -/
theorem cnt_upd_mem (hnd : l.Nodup) (hn : n ∈ l) :
    cnt l (upd c n v) k = cnt (l.erase n) c k + (if v = some k then 1 else 0) := by
  rw [cnt_erase (c := upd c n v) hn, upd_same, cnt_upd_notMem hnd.not_mem_erase]

/-- a new node in front of the list -/
theorem cnt_cons_upd (h : n ∉ l) :
    cnt (n :: l) (upd c n v) k = cnt l c k + (if v = some k then 1 else 0) := by
  rw [cnt, List.countP_cons, ← cnt, cnt_upd_notMem h, upd_same]
  simp

end cnt

/-- `dead` after the cache slot of `n` is set and the allocated nodes become `l'` -/
theorem dead_upd {c : Nat → Option Nat} {l l' : List Nat} (hdead : ∀ m, m ∉ l → c m = none) (n : Nat)
    (v : Option Nat) (h : ∀ m, m ≠ n → m ∉ l' → m ∉ l) (hv : n ∉ l' → v = none) :
    ∀ m, m ∉ l' → upd c n v m = none := fun m hm => by
  by_cases e : m = n
  · subst e; rw [upd_same]; exact hv hm
  · rw [upd_other e]; exact hdead m (h m e hm)

structure Inv (s : St) : Prop where
  /-- a node object is allocated at most once -/
  nodup : s.nodes.Nodup
  /-- only allocated nodes cache anything (`freeNodeUnlocked` zeroes the node) -/
  dead : ∀ n, n ∉ s.nodes → s.cached n = none
  acc : ∀ i, s.count i = (cnt s.nodes s.cached i : Int) + (s.handed i : Int)

/-- `Inv` of a state given by its fields: applied to `step s e` it leaves goals about the fields the event sets -/
theorem Inv.intro {count : Nat → Int} {nodes : List Nat} {cached : Nat → Option Nat} {handed : Nat → Nat}
    (nodup : nodes.Nodup) (dead : ∀ n, n ∉ nodes → cached n = none)
    (acc : ∀ i, count i = (cnt nodes cached i : Int) + (handed i : Int)) : Inv ⟨count, nodes, cached, handed⟩ :=
  ⟨nodup, dead, acc⟩

theorem inv_init : Inv St.init :=
  ⟨List.nodup_nil, fun _ _ => rfl, fun _ => by simp [St.init, cnt]⟩

/-- once node `n` has released what it caches, an item's count is that of the other nodes and the caller -/
theorem Inv.released {s : St} (hi : Inv s) {n : Nat} (hn : n ∈ s.nodes) (k : Nat) :
    decCached s.count (s.cached n) k = (cnt (s.nodes.erase n) s.cached k : Int) + (s.handed k : Int) := by
  rw [decCached_apply, hi.acc k, cnt_erase hn]; omega

/-- count and handed-out references of one item move together -/
theorem Inv.hand {s : St} (hi : Inv s) (i : Nat) (a : Int) (b : Nat) (hab : a - s.count i = (b : Int) - s.handed i)
    (k : Nat) : upd s.count i a k = (cnt s.nodes s.cached k : Int) + ((upd s.handed i b k : Nat) : Int) := by
  have hk := hi.acc k
  by_cases hki : k = i
  · subst hki; rw [upd_same, upd_same]; omega
  · rw [upd_other hki, upd_other hki]; exact hk

/-- `ItemAddRef` of item `i`, or `ItemAlloc` of it when its count was 0, adds one to that item's count and to no other -/
theorem upd_succ {c : Nat → Int} {i : Nat} {a : Int} (h : a = c i + 1) (k : Nat) :
    upd c i a k = c k + ((if some i = some k then 1 else 0 : Nat) : Int) := by
  by_cases hk : k = i
  · subst hk; rw [upd_same, if_pos rfl, h]; rfl
  · rw [upd_other hk, if_neg fun e => hk (Option.some.inj e).symm]; exact (Int.add_zero _).symm

theorem inv_step (s : St) (e : Ev) (hi : Inv s) (hp : pre s e) : Inv (step s e) := by
  cases e with
  | mkNode n i =>
    refine .intro (List.nodup_cons.2 ⟨hp, hi.nodup⟩) (dead_upd hi.dead n _
      (fun m _ hm h => hm (List.mem_cons_of_mem _ h)) fun h => absurd List.mem_cons_self h) fun k => ?_
    rw [upd_succ rfl, cnt_cons_upd hp, hi.acc k, Int.natCast_add, Int.add_right_comm]
  | mkNodeEmpty n =>
    refine .intro (List.nodup_cons.2 ⟨hp, hi.nodup⟩) (dead_upd hi.dead n _
      (fun m _ hm h => hm (List.mem_cons_of_mem _ h)) fun _ => rfl) fun k => ?_
    rw [cnt_cons_upd hp, if_neg nofun]; exact hi.acc k
  | load n i =>
    refine .intro hi.nodup (dead_upd hi.dead n _ (fun _ _ h => h) fun h => absurd hp.1 h) fun k => ?_
    -- a fresh item is cached nowhere and was handed to nobody: what `n` released was not `i`
    have h0 : decCached s.count (s.cached n) i = 0 := by
      have := hi.released hp.1 i; rw [decCached_apply, hp.2] at this ⊢; omega
    rw [upd_succ (h0 ▸ rfl), hi.released hp.1, cnt_upd_mem hi.nodup hp.1, Int.natCast_add, Int.add_right_comm]
  | evict n =>
    refine .intro hi.nodup (dead_upd hi.dead n _ (fun _ _ h => h) fun _ => rfl) fun k => ?_
    rw [hi.released hp, cnt_upd_mem hi.nodup hp, if_neg nofun]; rfl
  | freeNode n =>
    refine .intro (hi.nodup.erase n) (dead_upd hi.dead n _
      (fun m hne hm h => hm ((List.mem_erase_of_ne hne).2 h)) fun _ => rfl) fun k => ?_
    rw [hi.released hp, cnt_upd_notMem hi.nodup.not_mem_erase]
  | handOut i => exact .intro hi.nodup hi.dead (hi.hand i _ _ (by omega))
  | giveBack i => exact .intro hi.nodup hi.dead (hi.hand i _ _ (by have : 0 < s.handed i := hp; omega))

theorem reach_inv {s : St} (h : Reach s) : Inv s := by
  induction h with
  | init => exact inv_init
  | step e _ hp ih => exact inv_step _ e ih hp

/-- the allocated nodes form a set: no node object is allocated twice -/
theorem nodes_nodup {s : St} (h : Reach s) : s.nodes.Nodup := (reach_inv h).nodup

/-- a freed (or never made) node caches nothing -/
theorem unallocated_caches_nothing {s : St} (h : Reach s) (n : Nat) (hn : n ∉ s.nodes) :
    s.cached n = none := (reach_inv h).dead n hn

/-- the accounting invariant: the application's count of item `i` is exactly the number of
    allocated nodes caching `i` plus the references handed to the caller and not yet returned -/
theorem accounting {s : St} (h : Reach s) :
    ∀ i, s.count i =
      ((s.nodes.countP (fun n => decide (s.cached n = some i)) : Nat) : Int) + (s.handed i : Int) :=
  (reach_inv h).acc

/-- gkvlite never releases a reference it does not hold: no count ever drops below zero -/
theorem never_negative {s : St} (h : Reach s) : ∀ i, 0 ≤ s.count i := by
  intro i
  have := accounting h i
  omega

/-- an item cached in any node (necessarily an allocated one — in particular every item reachable
    from an open collection) has a positive count: it cannot have been released prematurely -/
theorem reachable_positive {s : St} (h : Reach s) : ∀ n i, s.cached n = some i → 0 < s.count i := by
  intro n i hc
  have hinv := reach_inv h
  have hn : n ∈ s.nodes := Decidable.of_not_not fun hn => nomatch (hinv.dead n hn).symm.trans hc
  have := cnt_pos hn hc
  have := hinv.acc i
  omega

/-- an item the caller still holds a reference to has a positive count -/
theorem handed_positive {s : St} (h : Reach s) : ∀ i, 0 < s.handed i → 0 < s.count i := by
  intro i hh
  have := accounting h i
  omega

/-- whatever gkvlite is entitled to look at has a positive count: an allocator that recycles an item
    the moment its count reaches zero never takes it away from under a well-behaved reader -/
theorem looked_at_is_counted {s : St} (h : Reach s) (i : Nat) (hl : mayLookAt s i) : 0 < s.count i := by
  rcases hl with ⟨n, _, hc⟩ | hh
  · exact reachable_positive h n i hc
  · exact handed_positive h i hh

/-- once every node has been freed (store and all snapshots closed) and the caller has returned
    everything it was handed, every reference gkvlite took has been released -/
theorem closed_balanced {s : St} (h : Reach s) (hn : s.nodes = []) (hh : ∀ i, s.handed i = 0) :
    ∀ i, s.count i = 0 := by
  intro i
  have := accounting h i
  rw [hn, hh i] at this
  simpa using this

/-- the converse direction of the invariant, per step: every `ItemDecRef` gkvlite issues is matched
    by a reference it holds — the count before any event that decrements item `j` is positive -/
theorem decref_holds_reference {s : St} (h : Reach s) :
    (∀ n j, n ∈ s.nodes → s.cached n = some j → 0 < s.count j) ∧
    (∀ j, pre s (.giveBack j) → 0 < s.count j) :=
  ⟨fun n j _ hc => reachable_positive h n j hc, fun j hp => handed_positive h j hp⟩

theorem run_reach : ∀ (es : List Ev) (s s' : St), Reach s → run s es = some s' → Reach s'
  | [], s, s', hr, h => by
    simp only [run, Option.some.injEq] at h; exact h ▸ hr
  | e :: es, s, s', hr, h => by
    simp only [run] at h
    by_cases hp : pre s e
    · rw [if_pos hp] at h
      exact run_reach es _ _ (Reach.step e hr hp) h
    · rw [if_neg hp] at h; cases h

/-! ### a concrete non-trivial reachable state

Item 7 is set into node 0 (`SetItem`'s `mkNode`), the node is copied to node 1 by a second
mutation (path copying), the old node 0 is freed; node 2 is made for a persisted item that is not
cached, item 9 is loaded into it key-only, handed to the caller (`GetItem`), re-read with its
value as item 10 (item 9 is released by the node but still held by the caller), item 10 is
evicted; the caller gives item 9 back; finally all nodes are freed. -/

def demo : List Ev :=
  [.mkNode 0 7, .mkNode 1 7, .freeNode 0, .mkNodeEmpty 2, .load 2 9, .handOut 9, .load 2 10]

def demoEnd : List Ev := [.evict 2, .giveBack 9, .freeNode 1, .freeNode 2]

/-- all preconditions hold along `demo` -/
example : (run St.init demo).isSome = true := by decide
/-- in the state after `demo`: item 7 is held by node 1 only, item 9 by the caller only, item 10
    by node 2 only -/
example : (run St.init demo).map (fun s => ((s.nodes, s.count 7, s.count 9, s.count 10, s.handed 9) :
    List Nat × Int × Int × Int × Nat)) = some ([2, 1], 1, 1, 1, 1) := by decide
example : (run St.init demo).map (fun s => ((s.cached 0, s.cached 1, s.cached 2) :
    Option Nat × Option Nat × Option Nat)) = some (none, some 7, some 10) := by decide
/-- after `demoEnd` everything is released -/
example : (run St.init (demo ++ demoEnd)).map (fun s => ((s.nodes, s.count 7, s.count 9, s.count 10,
    s.handed 9) : List Nat × Int × Int × Int × Nat)) = some ([], 0, 0, 0, 0) := by decide
/-- events that violate a precondition are rejected: double free, returning what was not handed
    out, handing out an item no live node caches -/
example : (run St.init [.mkNode 0 7, .freeNode 0, .freeNode 0]).isNone = true := by decide
example : (run St.init [.mkNode 0 7, .giveBack 7]).isNone = true := by decide
example : (run St.init [.mkNode 0 7, .freeNode 0, .handOut 7]).isNone = true := by decide

/-- defect F20 in the model: item 7 is loaded into node 0, shown to the visitor (no reference is
    taken for that), the visit leaves the node and evicts it.  From then on nothing entitles
    gkvlite to look at item 7, and its count is zero: the allocator may already have given it to
    somebody else.  The pinned `VisitItemsAscendEx` compared the NEXT item's key with item 7's. -/
example :
    (run St.init [.mkNodeEmpty 0, .load 0 7, .evict 0]).map
      (fun s => (decide (mayLookAt s 7), s.count 7)) = some (false, 0) := by decide
/-- … whereas while the node still caches it, looking at it is fine -/
example :
    (run St.init [.mkNodeEmpty 0, .load 0 7]).map
      (fun s => (decide (mayLookAt s 7), s.count 7)) = some (true, 1) := by decide

/-- the state after `demo` is reachable, so all theorems above apply to it -/
theorem demo_reach : ∀ s, run St.init demo = some s → Reach s :=
  fun s h => run_reach demo St.init s Reach.init h

/-- why the `ItemDecRef` in `evict` is needed (defect F6 of the pinned tree: the in-visit eviction
    drops the item without it): without the decrement the accounting equation fails — here is the
    state a decrement-free eviction of node 0 would produce after `mkNode 0 7`. -/
example :
    let s := step St.init (.mkNode 0 7)
    let bad : St := { s with cached := upd s.cached 0 none }
    bad.count 7 ≠ (holders bad 7 : Int) + (bad.handed 7 : Int) := by decide

end Gkv.Refs
