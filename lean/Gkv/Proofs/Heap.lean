/-
C13, heap order and canonical shape (search order and aggregates are in `TreapSet`, `TreapDel`).
`setItem` keeps heap order as long as no key is overwritten with a lower priority, and that
hypothesis cannot be dropped.  A search tree that is strictly heap ordered
(which heap order is when the priorities are pairwise distinct) is determined, as a shape, by its
in-order item list; hence the depth every item is reported at is a function of the current items
alone, whatever the order of operations that built the tree.
-/
import Gkv.Proofs.TreapSet
import Gkv.Proofs.TreapDel
open Std

namespace Gkv
namespace Tree

variable (cmp : Bytes → Bytes → Ordering) [Std.TransCmp cmp]

/-- `hp` : the key is not overwritten with a lower priority -/
theorem setItem_heapBelow {i : Item} : ∀ {t : Tree} {B : Nat}, HeapBelow B t →
    i.prio ≤ B → (∀ j, get cmp t i.key = some j → j.prio ≤ i.prio) → HeapBelow B (setItem cmp t i) := by
  intro t
  induction t with
  | nil => exact fun _ hi _ => setItem_nil cmp i ▸ heapBelow_node.mpr ⟨heapBelow_nil _, heapBelow_nil _, hi⟩
  | node l j a b r p q ihl ihr =>
    intro B ht hi
    obtain ⟨hl, hr, hj⟩ := heapBelow_node.mp ht
    rw [setItem_node]
    split
    next hgt =>
      -- the old root outranks the new item, which goes below it on the side where `get` looks for
      -- its key; at the root it cannot be, by the hypothesis about `get`
      rw [get_node, OrientedCmp.eq_swap (cmp := cmp) (a := i.key)]
      cases cmp j.key i.key with
      | eq => exact fun hp => absurd (hp j rfl) (Nat.not_le_of_gt hgt)
      | lt => exact fun hp => heapBelow_node.mpr ⟨hl, ihr hr (Nat.le_of_lt hgt) hp, hj⟩
      | gt => exact fun hp => heapBelow_node.mpr ⟨ihl hl (Nat.le_of_lt hgt) hp, hr, hj⟩
    next hgt =>
      -- the new item becomes the root, over the parts of the old tree
      have hs := split_heapBelow cmp (node l j a b r p q) i.key
        (heapBelow_node.mpr ⟨hl, hr, Nat.le_of_not_gt hgt⟩)
      exact fun _ => heapBelow_node.mpr ⟨hs.1, hs.2.2, hi⟩

/-- SetItem keeps heap order when the new priority is at least the key's current one
    (or the key is new). -/
theorem setItem_heap {t : Tree} (hh : HeapOK t) (i : Item)
    (hp : ∀ j, get cmp t i.key = some j → j.prio ≤ i.prio) : HeapOK (setItem cmp t i) := by
  obtain ⟨B, hB⟩ := hh.below
  exact (setItem_heapBelow cmp (hB.mono (Nat.le_max_left B i.prio)) (Nat.le_max_right ..) hp).1

/-- The hypothesis of `setItem_heap` is necessary: overwriting the root (priority 5) of a
    two-node tree with priority 1 leaves its child (priority 3) outranking it. -/
theorem setItem_heap_needs_hyp :
    ∃ (t : Tree) (i : Item), BST cmpBytes t ∧ HeapOK t ∧ ¬ HeapOK (setItem cmpBytes t i) := by
  refine ⟨node (node nil ⟨[0], [], 3⟩ 1 1 nil none none) ⟨[1], [], 5⟩ 2 2 nil none none,
    ⟨[1], [], 1⟩, ?_, ?_, ?_⟩
  · simp [BST, All, cmpBytes]
    decide
  · simp [HeapOK, rootPrio]
  · simp [setItem, union, split, cmpBytes, mk, HeapOK, rootPrio]

/-- strict heap order: every child has a strictly smaller priority than its parent -/
def HeapStrict : Tree → Prop
  | nil => True
  | node l i _ _ r _ _ =>
    HeapStrict l ∧ HeapStrict r ∧ (∀ p, l.rootPrio = some p → p < i.prio) ∧
      (∀ p, r.rootPrio = some p → p < i.prio)

/-- forget the stored aggregates and the file locations -/
def shape : Tree → Tree
  | nil => nil
  | node l i _ _ r _ _ => node (shape l) i 0 0 (shape r) none none

theorem HeapStrict.heapOK : ∀ {t : Tree}, HeapStrict t → HeapOK t
  | nil, _ => trivial
  | node _ _ _ _ _ _ _, ⟨hl, hr, hpl, hpr⟩ =>
    ⟨hl.heapOK, hr.heapOK, fun p hp => Nat.le_of_lt (hpl p hp), fun p hp => Nat.le_of_lt (hpr p hp)⟩

@[simp] theorem toList_shape : ∀ t : Tree, (shape t).toList = t.toList
  | nil => rfl
  | node l i _ _ r _ _ => by simp [shape, toList, toList_shape l, toList_shape r]

@[simp] theorem inorderD_shape : ∀ (t : Tree) (d : Nat), inorderD (shape t) d = inorderD t d
  | nil, _ => rfl
  | node l i _ _ r _ _, d => by
    simp [shape, inorderD, inorderD_shape l (d+1), inorderD_shape r (d+1)]

theorem HeapStrict.all_lt : ∀ {t : Tree}, HeapStrict t → ∀ B : Nat,
    (∀ p, t.rootPrio = some p → p < B) → All (fun j => j.prio < B) t
  | nil, _, _, _ => trivial
  | node l i _ _ r _ _, ⟨hl, hr, hpl, hpr⟩, B, hB =>
    have hi : i.prio < B := hB i.prio rfl
    ⟨All_imp (fun _ hj => Nat.lt_trans hj hi) l (hl.all_lt i.prio hpl), hi,
      All_imp (fun _ hj => Nat.lt_trans hj hi) r (hr.all_lt i.prio hpr)⟩

theorem HeapStrict.root_max {l r : Tree} {i : Item} {a b : Nat} {p q : Option Ploc}
    (h : HeapStrict (node l i a b r p q)) :
    All (fun j => j = i ∨ j.prio < i.prio) (node l i a b r p q) :=
  ⟨All_imp (fun _ => .inr) l (h.1.all_lt i.prio h.2.2.1), .inl rfl,
    All_imp (fun _ => .inr) r (h.2.1.all_lt i.prio h.2.2.2)⟩

theorem BST.filter_root {l r : Tree} {i : Item} {a b : Nat} {p q : Option Ploc}
    (h : BST cmp (node l i a b r p q)) :
    (node l i a b r p q).toList.filter (fun j => cmp j.key i.key == .lt) = l.toList ∧
      (node l i a b r p q).toList.filter (fun j => cmp j.key i.key == .gt) = r.toList := by
  obtain ⟨_, _, hal, har⟩ := h
  have hi : cmp i.key i.key = .eq := ReflCmp.compare_self
  simp only [toList, List.filter_append, List.filter_cons, hi]
  constructor
  · rw [List.filter_eq_self.mpr fun x hx => by simp [hal.mem hx],
      List.filter_eq_nil_iff.mpr fun x hx => by simp [har.mem hx]]
    simp
  · rw [List.filter_eq_nil_iff.mpr fun x hx => by simp [hal.mem hx],
      List.filter_eq_self.mpr fun x hx => by simp [har.mem hx]]
    simp

/-- Canonical shape: a search tree that is strictly heap ordered is determined by its item list
    (as a shape: stored aggregates and file locations aside). -/
theorem canonical_unique {t t' : Tree} (hb : BST cmp t) (hb' : BST cmp t') (hs : HeapStrict t)
    (hs' : HeapStrict t') (hl : t.toList = t'.toList) : shape t = shape t' := by
  have mem {l i a b r p q} : i ∈ (node l i a b r p q).toList :=
    List.mem_append_right _ List.mem_cons_self
  induction t generalizing t' with
  | nil => cases t' with
    | nil => rfl
    | node _ i' => cases (hl ▸ mem : i' ∈ nil.toList)
  | node l i a b r p q ihl ihr => cases t' with
    | nil => cases (hl ▸ mem : i ∈ nil.toList)
    | node l' i' a' b' r' p' q' =>
      -- each root is an item of the other tree, so neither outranks the other: they are the same item
      have h : i = i' ∨ i.prio < i'.prio := hs'.root_max.mem (hl ▸ mem)
      have h' : i' = i ∨ i'.prio < i.prio := hs.root_max.mem (hl ▸ mem)
      obtain rfl : i = i' := h.elim id fun h => h'.elim Eq.symm fun h' => absurd h (Nat.lt_asymm h')
      -- the subtrees hold what of the list is below and above the root's key
      have hf := BST.filter_root cmp hb
      rw [hl] at hf
      have hf' := BST.filter_root cmp hb'
      rw [shape, shape, ihl hb.1 hb'.1 hs.1 hs'.1 (hf.1.symm.trans hf'.1),
        ihr hb.2.1 hb'.2.1 hs.2.1 hs'.2.1 (hf.2.symm.trans hf'.2)]

/-- Hence depths are a function of the item set. -/
theorem canonical_depths {t t' : Tree} (hb : BST cmp t) (hb' : BST cmp t') (hs : HeapStrict t)
    (hs' : HeapStrict t') (hl : t.toList = t'.toList) (d : Nat) : inorderD t d = inorderD t' d := by
  rw [← inorderD_shape t d, ← inorderD_shape t' d, canonical_unique cmp hb hb' hs hs' hl]

theorem rootPrio_mem {t : Tree} {p : Nat} (h : t.rootPrio = some p) :
    p ∈ t.toList.map (·.prio) := by
  cases t with
  | nil => cases h
  | node l i a b r p' q =>
    simp only [rootPrio, Option.some.injEq] at h
    subst h
    simp [toList]

theorem heapStrict_of_distinct {t : Tree} (hh : HeapOK t)
    (hd : (t.toList.map (·.prio)).Nodup) : HeapStrict t := by
  induction t with
  | nil => trivial
  | node l i a b r p q ihl ihr =>
    obtain ⟨hl, hr, hpl, hpr⟩ := hh
    simp only [toList, List.map_append, List.map_cons] at hd
    have hd' := List.nodup_append.mp hd
    have hdr := List.nodup_cons.mp hd'.2.1
    refine ⟨ihl hl hd'.1, ihr hr hdr.2, ?_, ?_⟩
    · intro x hx
      have hle := hpl x hx
      have hne : x ≠ i.prio := hd'.2.2 x (rootPrio_mem hx) i.prio (List.mem_cons_self ..)
      omega
    · intro x hx
      have hle := hpr x hx
      have hne : x ≠ i.prio := fun he => hdr.1 (he ▸ rootPrio_mem hx)
      omega

end Tree
end Gkv

open Gkv Tree in
#print axioms setItem_heap
open Gkv Tree in
#print axioms setItem_heap_needs_hyp
open Gkv Tree in
#print axioms canonical_unique
open Gkv Tree in
#print axioms canonical_depths
open Gkv Tree in
#print axioms heapStrict_of_distinct
