/-
What the history theorems (`Proofs/MachineR.lean`, `Proofs/Machine.lean`) keep true of a collection
list next to a file (`CollsOK`), and what a completed Flush leaves on the file (`EntryOK`): a root
record ending at offset `e` whose entries are the root slots of collections that decode from the
bytes BELOW `e`.  An entry only depends on `f.take e`, so it survives later appends and truncation
to any later end; it is what both re-opening and FlushRevert read.
-/
import Gkv.Model.Machine
import Gkv.Proofs.TreapDel
import Gkv.Proofs.CoherentOps
import Gkv.Proofs.EraseLocs
import Gkv.Proofs.CrashOpen
import Gkv.Proofs.Colls
open Std

namespace Gkv.Machine
open Gkv

/-- what the API can observe of a collection list -/
def absColls (cs : List Coll) : SpecStore := cs.map (fun c => (c.name, c.root.toList))

theorem absS_eq (s : SState) : absS s = absColls s.colls := rfl

theorem abs_collsSet (c : Coll) : ∀ cs : List Coll,
    absColls (collsSet c cs) = specSet c.name c.root.toList (absColls cs)
  | [] => rfl
  | d :: rest => by
    cases h : compare c.name d.name with
    | lt => simp [collsSet, specSet, absColls, h]
    | eq => simp [collsSet, specSet, absColls, h]
    | gt =>
      have ih := abs_collsSet c rest
      simp only [absColls] at ih
      simp [collsSet, specSet, absColls, h, ih]

theorem abs_collsGet (n : Bytes) : ∀ cs : List Coll,
    (collsGet n cs).map (fun c => c.root.toList) = specGet n (absColls cs)
  | [] => rfl
  | d :: rest => by
    simp only [collsGet, absColls, List.map_cons, specGet]
    split
    · rfl
    · exact abs_collsGet n rest

theorem abs_collsRemove (n : Bytes) (cs : List Coll) :
    absColls (collsRemove n cs) = (absColls cs).filter (fun p => p.1 ≠ n) := by
  unfold absColls collsRemove
  rw [List.filter_map]
  rfl

/-- what has to hold of a tree, file locations apart.  `n` bounds the number of operations so
    far: a tree holds at most `n` items and at most `n * 2^32` key+value bytes, which is what
    keeps the stored aggregates below `2^64` (`Tree.SizesOK`) for histories shorter than `2^32`. -/
structure TreeOK (cmp : Bytes → Bytes → Ordering) (n : Nat) (t : Tree) : Prop where
  bst : t.BST cmp
  agg : t.AggOK
  items : t.All ItemOK
  len : t.toList.length ≤ n
  bytes : (t.toList.map Item.nbytes).sum ≤ n * 2^32

theorem TreeOK.nil (cmp : Bytes → Bytes → Ordering) (n : Nat) : TreeOK cmp n .nil :=
  ⟨trivial, trivial, trivial, Nat.zero_le _, Nat.zero_le _⟩

theorem TreeOK.mono {cmp : Bytes → Bytes → Ordering} {n m : Nat} {t : Tree} (h : TreeOK cmp n t)
    (hnm : n ≤ m) : TreeOK cmp m t :=
  ⟨h.bst, h.agg, h.items, Nat.le_trans h.len hnm,
    Nat.le_trans h.bytes (Nat.mul_le_mul_right _ hnm)⟩

theorem nbytes_lt_of_itemOK {i : Item} (hi : ItemOK i) : i.nbytes < 2^32 := by
  unfold ItemOK at hi
  unfold Item.nbytes
  omega

theorem TreeOK.setItem {cmp : Bytes → Bytes → Ordering} [TransCmp cmp] {n : Nat} {t : Tree}
    (h : TreeOK cmp n t) {i : Item} (hi : ItemOK i) : TreeOK cmp (n+1) (Tree.setItem cmp t i) := by
  have e := Tree.setItem_toList cmp h.bst i
  refine ⟨Tree.setItem_bst cmp h.bst i, Tree.setItem_agg cmp h.agg i,
    Tree.setItem_all cmp h.items i hi, ?_, ?_⟩
  · rw [e]
    have := Spec.insert_length_le cmp t.toList i
    have := h.len
    omega
  · rw [e]
    have := Spec.insert_bytes_le cmp t.toList i
    have := h.bytes
    have := nbytes_lt_of_itemOK hi
    omega

theorem TreeOK.delete {cmp : Bytes → Bytes → Ordering} [TransCmp cmp] {n : Nat} {t : Tree}
    (h : TreeOK cmp n t) (k : Bytes) : TreeOK cmp n (Tree.delete cmp t k).1 := by
  have e := Tree.delete_toList cmp h.bst k
  refine ⟨Tree.delete_bst cmp h.bst k, Tree.delete_agg cmp h.agg k,
    Tree.delete_all cmp h.items k, ?_, ?_⟩
  · rw [e]
    exact Nat.le_trans (Spec.erase_length_le cmp t.toList k) h.len
  · rw [e]
    exact Nat.le_trans (Spec.erase_bytes_le cmp t.toList k) h.bytes

theorem TreeOK.congr {cmp : Bytes → Bytes → Ordering} {n : Nat} {t t' : Tree}
    (h : TreeOK cmp n t) (e : t'.eraseLocs = t.eraseLocs) : TreeOK cmp n t' := by
  have el : t'.toList = t.toList := by
    rw [← toList_eraseLocs t', e, toList_eraseLocs]
  refine ⟨?_, ?_, ?_, ?_, ?_⟩
  · rw [← bst_eraseLocs, e, bst_eraseLocs]; exact h.bst
  · rw [← aggOK_eraseLocs, e, aggOK_eraseLocs]; exact h.agg
  · rw [← all_eraseLocs, e, all_eraseLocs]; exact h.items
  · rw [el]; exact h.len
  · rw [el]; exact h.bytes

theorem TreeOK.sizesOK {cmp : Bytes → Bytes → Ordering} {n : Nat} {t : Tree}
    (h : TreeOK cmp n t) (hn : n < 2^32) : t.SizesOK := by
  have h1 := h.len
  have h2 := h.bytes
  rw [Tree.length_toList] at h1
  exact Tree.sizesOK_of_agg h.agg h.items (by omega) (by omega)

/-- one collection: comparator as the callback assigns it, plain name, a good tree, and whatever
    of the tree has a file location decodes from file `f` -/
structure CollOK (cmpOf : Bytes → CmpKind) (f : Bytes) (n : Nat) (c : Coll) : Prop where
  hcmp : c.cmp = cmpOf c.name
  plain : PlainName c.name
  tree : TreeOK c.cmp.fn n c.root
  coh : c.root.Coherent f f.length

structure CollsOK (cmpOf : Bytes → CmpKind) (f : Bytes) (n : Nat) (cs : List Coll) : Prop where
  sorted : SortedNames cs
  all : ∀ c ∈ cs, CollOK cmpOf f n c

theorem CollOK.mono {cmpOf : Bytes → CmpKind} {f : Bytes} {n m : Nat} {c : Coll}
    (h : CollOK cmpOf f n c) (hnm : n ≤ m) : CollOK cmpOf f m c :=
  ⟨h.hcmp, h.plain, h.tree.mono hnm, h.coh⟩

theorem CollsOK.mono {cmpOf : Bytes → CmpKind} {f : Bytes} {n m : Nat} {cs : List Coll}
    (h : CollsOK cmpOf f n cs) (hnm : n ≤ m) : CollsOK cmpOf f m cs :=
  ⟨h.sorted, fun c hc => (h.all c hc).mono hnm⟩

theorem CollsOK.nil (cmpOf : Bytes → CmpKind) (f : Bytes) (n : Nat) : CollsOK cmpOf f n [] :=
  ⟨List.Pairwise.nil, fun c hc => by cases hc⟩

theorem CollsOK.set {cmpOf : Bytes → CmpKind} {f : Bytes} {n : Nat} {cs : List Coll} {c : Coll}
    (h : CollsOK cmpOf f n cs) (hc : CollOK cmpOf f n c) : CollsOK cmpOf f n (collsSet c cs) := by
  refine ⟨collsSet_sorted c cs h.sorted, ?_⟩
  intro x hx
  rcases mem_collsSet hx with hx | hx
  · subst hx; exact hc
  · exact h.all x hx

theorem CollsOK.remove {cmpOf : Bytes → CmpKind} {f : Bytes} {n : Nat} {cs : List Coll}
    (h : CollsOK cmpOf f n cs) (nm : Bytes) : CollsOK cmpOf f n (collsRemove nm cs) := by
  refine ⟨List.Pairwise.filter _ h.sorted, ?_⟩
  intro x hx
  exact h.all x (List.mem_filter.mp hx).1

theorem SameShape.abs {cs' cs : List Coll} (h : SameShape cs' cs) :
    absColls cs' = absColls cs := by
  have := congrArg
    (List.map (fun x : Bytes × CmpKind × Tree => (x.1, x.2.2.toList))) h
  simp only [List.map_map, Function.comp_def, toList_eraseLocs] at this
  exact this

/-- the store invariant as the history theorems export it (`rinvariant`, `Machine.invariant`): in
    the notions of Models A and B themselves, without `TreeOK`, `CollsOK` and the operation count -/
structure StoreInv (cmpOf : Bytes → CmpKind) (s : SState) : Prop where
  sorted : s.colls.Pairwise (fun a b => compare a.name b.name = .lt)
  cmp : ∀ c ∈ s.colls, c.cmp = cmpOf c.name
  plain : ∀ c ∈ s.colls, PlainName c.name
  bst : ∀ c ∈ s.colls, c.root.BST c.cmp.fn
  agg : ∀ c ∈ s.colls, c.root.AggOK
  sizes : ∀ c ∈ s.colls, c.root.SizesOK
  coherent : ∀ c ∈ s.colls, c.root.Coherent s.file s.size
  size : s.size = s.file.length
  /-- opening the file as it is now succeeds, at the full length of the file -/
  opens : ∃ dc, openStore 0 s.file cmpOf = .ok ⟨some 0, s.file.length, dc, false⟩

def OpOK : SOp → Prop
  | .setColl n => PlainName n
  | .set _ i => ItemOK i
  | _ => True

theorem CollsOK.get {cmpOf : Bytes → CmpKind} {f : Bytes} {n : Nat} {cs : List Coll}
    (h : CollsOK cmpOf f n cs) {m : Bytes} {c : Coll} (hg : collsGet m cs = some c) :
    CollOK cmpOf f n c ∧ c.name = m :=
  ⟨h.all c (collsGet_some hg).1, (collsGet_some hg).2⟩

/-- the four operations that do not touch the file keep `CollsOK` and do to `absColls` what the
    specification does to `cur` -/
theorem CollsOK.sstep {cmpOf : Bytes → CmpKind} {n : Nat} {s : SState}
    (h : CollsOK cmpOf s.file n s.colls) {op : SOp} (hop : OpOK op)
    (h1 : op ≠ .flush) (h2 : op ≠ .reopen) (d : SpecStore) :
    CollsOK cmpOf s.file (n+1) (sstep cmpOf s op).colls ∧
    absColls (sstep cmpOf s op).colls = (specStep cmpOf ⟨absColls s.colls, d⟩ op).cur ∧
    (sstep cmpOf s op).file = s.file ∧ (sstep cmpOf s op).size = s.size := by
  have h' := h.mono (Nat.le_succ n)
  cases op with
  | flush => exact absurd rfl h1
  | reopen => exact absurd rfl h2
  | rmColl m => exact ⟨h'.remove m, abs_collsRemove m s.colls, rfl, rfl⟩
  | setColl m =>
    refine ⟨h'.set ?_, ?_, rfl, rfl⟩
    · cases hg : collsGet m s.colls with
      | none => exact ⟨rfl, hop, .nil _ _, trivial⟩
      | some c =>
        obtain ⟨hc, rfl⟩ := h'.get hg
        exact ⟨rfl, hop, hc.hcmp ▸ hc.tree, hc.coh⟩
    · show absColls (collsSet _ _) = specSet m ((specGet m (absColls s.colls)).getD []) _
      rw [abs_collsSet, ← abs_collsGet]
      cases collsGet m s.colls <;> rfl
  | set m i =>
    simp only [Machine.sstep, specStep, ← abs_collsGet]
    cases hg : collsGet m s.colls with
    | none => exact ⟨h', rfl, rfl, rfl⟩
    | some c =>
      obtain ⟨hc, rfl⟩ := h.get hg
      refine ⟨h'.set ⟨hc.hcmp, hc.plain, hc.tree.setItem hop, Tree.setItem_coherent _ _ _ hc.coh i⟩,
        ?_, rfl, rfl⟩
      show absColls (collsSet _ _) = specSet c.name (Spec.insert (cmpOf c.name).fn c.root.toList i) _
      rw [abs_collsSet, ← hc.hcmp, ← Tree.setItem_toList _ hc.tree.bst]
  | del m k =>
    simp only [Machine.sstep, specStep, ← abs_collsGet]
    cases hg : collsGet m s.colls with
    | none => exact ⟨h', rfl, rfl, rfl⟩
    | some c =>
      obtain ⟨hc, rfl⟩ := h'.get hg
      refine ⟨h'.set ⟨hc.hcmp, hc.plain, hc.tree.delete k, Tree.delete_coherent _ _ _ hc.coh k⟩,
        ?_, rfl, rfl⟩
      show absColls (collsSet _ _) = specSet c.name (Spec.erase (cmpOf c.name).fn c.root.toList k) _
      rw [abs_collsSet, ← hc.hcmp, ← Tree.delete_toList _ hc.tree.bst]

end Gkv.Machine

namespace Gkv.MachineR
open Gkv Gkv.Machine

/-- the flush that ended at offset `e` of file `f` wrote collections `dc`, which show `fl` -/
structure EntryOK (cmpOf : Bytes → CmpKind) (f : Bytes) (n e : Nat) (dc : List Coll)
    (fl : SpecStore) : Prop where
  le : e ≤ f.length
  root : rootAt f e = some (rootEntries dc)
  sorted : SortedNames dc
  hcmp : ∀ c ∈ dc, c.cmp = cmpOf c.name
  plain : ∀ c ∈ dc, PlainName c.name
  tree : ∀ c ∈ dc, TreeOK c.cmp.fn n c.root
  coh : ∀ c ∈ dc, c.root.Coherent f e ∧ c.root.Persisted
  abs : absColls dc = fl

theorem EntryOK.mono {cmpOf : Bytes → CmpKind} {f : Bytes} {n m e : Nat} {dc : List Coll}
    {fl : SpecStore} (h : EntryOK cmpOf f n e dc fl) (hnm : n ≤ m) : EntryOK cmpOf f m e dc fl :=
  ⟨h.le, h.root, h.sorted, h.hcmp, h.plain, fun c hc => (h.tree c hc).mono hnm, h.coh, h.abs⟩

/-- an entry only depends on the bytes below its end -/
theorem EntryOK.congr {cmpOf : Bytes → CmpKind} {f g : Bytes} {n e : Nat} {dc : List Coll}
    {fl : SpecStore} (h : EntryOK cmpOf f n e dc fl) (hg : e ≤ g.length)
    (hpre : g.take e = f.take e) : EntryOK cmpOf g n e dc fl := by
  refine ⟨hg, ?_, h.sorted, h.hcmp, h.plain, h.tree, ?_, h.abs⟩
  · rw [rootAt_congr g f e hg h.le hpre]; exact h.root
  · intro c hc
    exact ⟨coherent_of_prefix f g e c.root (h.coh c hc).1 h.le hg hpre, (h.coh c hc).2⟩

theorem EntryOK.load {cmpOf : Bytes → CmpKind} {f : Bytes} {n e : Nat} {dc : List Coll}
    {fl : SpecStore} (h : EntryOK cmpOf f n e dc fl) :
    loadColls f cmpOf (rootEntries dc) = some dc :=
  loadColls_of_coherent f e cmpOf dc h.coh h.le (fun c hc => (h.hcmp c hc).symm) h.sorted

theorem take_take_le {α : Type} (l : List α) {e m : Nat} (h : e ≤ m) :
    (l.take m).take e = l.take e := by
  rw [List.take_take, Nat.min_eq_left h]

/-- the collections of an entry are good collections next to the file -/
theorem EntryOK.collsOK {cmpOf : Bytes → CmpKind} {f : Bytes} {n e : Nat} {dc : List Coll}
    {fl : SpecStore} (h : EntryOK cmpOf f n e dc fl) : CollsOK cmpOf f n dc :=
  ⟨h.sorted, fun c hc => ⟨h.hcmp c hc, h.plain c hc, h.tree c hc,
    (h.coh c hc).1.mono (fun _ _ _ _ hr => hr) h.le⟩⟩

theorem EntryOK.opens {cmpOf : Bytes → CmpKind} {f : Bytes} {n : Nat} {dc : List Coll}
    {fl : SpecStore} (h : EntryOK cmpOf f n f.length dc fl) :
    openStore 0 f cmpOf = .ok ⟨some 0, f.length, dc, false⟩ := by
  rw [openStore_crash_atomic f f f.length (rootEntries dc) h.root (Nat.le_refl _) rfl
    (fun e' h1 h2 => absurd h2 (Nat.not_le_of_lt h1)) 0 cmpOf, h.load]

/-- a `Flush` without a fault, onto a file used up to its end: the file grows, keeps what it had,
    and ends with an entry for the flushed collections, which show what `cs` showed -/
theorem flush_entry {cmpOf : Bytes → CmpKind} {s : FileSt} {n : Nat} {cs : List Coll}
    (h : CollsOK cmpOf s.bytes n cs) (hf : s.failed = false) (hp : s.failAt = none)
    (hsz : s.size = s.bytes.length)
    (hn : n < 2^32) (hlim : (flushStore cs s).2.size < 2^32) :
    EntryOK cmpOf (flushStore cs s).2.bytes n (flushStore cs s).2.size (flushStore cs s).1
      (absColls cs) ∧
    (flushStore cs s).2.size = (flushStore cs s).2.bytes.length ∧
    s.size < (flushStore cs s).2.size ∧
    (flushStore cs s).2.bytes.take s.size = s.bytes.take s.size := by
  have hc : ∀ c ∈ cs, c.root.Coherent s.bytes s.size := fun c hc => hsz ▸ (h.all c hc).coh
  have hok : ∀ c ∈ cs, c.root.SizesOK := fun c hc => (h.all c hc).tree.sizesOK hn
  have hshape : SameShape (flushStore cs s).1 cs := flushStore_eraseLocs cs s
  obtain ⟨htight, hroot, hlt⟩ := flush_root_at cs s hf hp hsz hc hok hlim
  -- names, comparators and trees (locations apart) are those of `cs`
  have key : ∀ c' ∈ (flushStore cs s).1,
      c'.cmp = cmpOf c'.name ∧ PlainName c'.name ∧ TreeOK c'.cmp.fn n c'.root := by
    intro c' hc'
    obtain ⟨c, hcm, e1, e2, e3⟩ := hshape.mem c' hc'
    have hco := h.all c hcm
    rw [← e1, ← e2]
    exact ⟨hco.hcmp, hco.plain, hco.tree.congr e3⟩
  exact ⟨⟨Nat.le_of_eq htight, hroot, hshape.sorted h.sorted, fun c hc => (key c hc).1,
      fun c hc => (key c hc).2.1, fun c hc => (key c hc).2.2,
      flushStore_coherent cs s hf hp (Nat.le_of_eq hsz) hc hok hlim, hshape.abs⟩,
    htight, hlt, flushStore_prefix cs s (Nat.le_of_eq hsz)⟩

end Gkv.MachineR
