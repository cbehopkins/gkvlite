/-
`join` / `delete` refine `Spec.erase`.  Stored aggregates (`AggOK`): `structural_agg` makes them
exact through `split` / `join` / `union` / `setItem` / `delete`; `agg_root`, `totals_eq`: the root's
fields are the totals of the in-order list.  Heap order: `HeapBelow`, kept by `split` / `join`,
hence `delete_heap` (`setItem` is in `Heap.lean`: it needs a hypothesis).
-/
import Gkv.Proofs.TreapSet
open Std

namespace Gkv
namespace Tree

theorem join_toList (a b : Tree) : (join a b).toList = a.toList ++ b.toList := by
  fun_induction join a b
  case case1 => rfl
  case case2 => simp [toList]
  case case3 ih => simp only [toList_mk, ih, toList, List.append_assoc, List.cons_append]
  case case4 ih => simp only [toList_mk, ih, toList, List.append_assoc, List.cons_append]

section bst
variable (cmp : Bytes → Bytes → Ordering) [TransCmp cmp]

theorem join_bst {a b : Tree} (ha : BST cmp a) (hb : BST cmp b)
    (hsep : ∀ x ∈ a.toList, ∀ y ∈ b.toList, cmp x.key y.key = .lt) : BST cmp (join a b) := by
  rw [bst_iff_sorted, join_toList]
  exact List.pairwise_append.mpr ⟨toList_sorted cmp ha, toList_sorted cmp hb, hsep⟩

theorem delete_toList {t : Tree} (h : BST cmp t) (k : Bytes) :
    (delete cmp t k).1.toList = Spec.erase cmp t.toList k := by
  have hc := split_cut cmp h k
  rw [hc.erase]
  unfold delete
  split
  next hn =>
    rw [hn] at hc
    exact hc.app.trans (congrArg (· ++ _) (List.append_nil _))
  next => exact join_toList ..

theorem delete_bst {t : Tree} (h : BST cmp t) (k : Bytes) : BST cmp (delete cmp t k).1 := by
  unfold delete
  split
  · exact h
  · have hs := split_bst cmp t k h
    exact join_bst cmp hs.1 hs.2.1 fun x hx y hy =>
      TransCmp.lt_trans (hs.2.2.1.mem hx) (OrientedCmp.lt_of_gt (hs.2.2.2.mem hy))

theorem delete_wasDeleted {t : Tree} (h : BST cmp t) (k : Bytes) :
    (delete cmp t k).2 = (Spec.lookup cmp t.toList k).isSome := by
  rw [← get_eq_lookup cmp h k]
  unfold delete
  split
  next hnone => simp [hnone]
  next i hsome => simp [hsome]

end bst

theorem agg_root : ∀ {t : Tree}, AggOK t →
    t.nn = t.size ∧ t.nb = (t.toList.map Item.nbytes).sum
  | nil, _ => ⟨rfl, rfl⟩
  | node l i a b r p q, ⟨_, _, ha, hb⟩ => by
    refine ⟨ha, ?_⟩
    simp only [nb, toList, List.map_append, List.map_cons, List.sum_append, List.sum_cons]
    omega

theorem agg_mk {l r : Tree} (hl : AggOK l) (hr : AggOK r) (i : Item) (q : Option Ploc) :
    AggOK (mk l i r q) := by
  have h1 := agg_root hl
  have h2 := agg_root hr
  refine ⟨hl, hr, ?_, ?_⟩
  · omega
  · omega

theorem structural_agg : Structural AggOK fun _ _ => True :=
  ⟨trivial, fun h => ⟨h.1, trivial, h.2.1⟩, fun hl _ hr => agg_mk hl hr _ _⟩

section agg
variable (cmp : Bytes → Bytes → Ordering)

theorem setItem_agg {t : Tree} (h : AggOK t) (i : Item) : AggOK (setItem cmp t i) :=
  structural_agg.setItem cmp h trivial

theorem delete_agg {t : Tree} (h : AggOK t) (k : Bytes) : AggOK (delete cmp t k).1 :=
  structural_agg.delete cmp h k

end agg

theorem totals_eq {t : Tree} (h : AggOK t) : t.totals = Spec.totals t.toList := by
  have := agg_root h
  simp only [totals, Spec.totals, length_toList, this.1, this.2]

/-- heap order, and the root does not outrank `B`: what a subtree of a node of priority `B`
    satisfies, and what `split` and `join` keep for every `B` -/
def HeapBelow (B : Nat) (t : Tree) : Prop := HeapOK t ∧ ∀ p, t.rootPrio = some p → p ≤ B

theorem heapBelow_nil (B : Nat) : HeapBelow B nil := ⟨trivial, fun _ h => by cases h⟩

theorem heapOK_node {l r : Tree} {i : Item} {a b : Nat} {p q : Option Ploc} :
    HeapOK (node l i a b r p q) ↔ HeapBelow i.prio l ∧ HeapBelow i.prio r :=
  ⟨fun ⟨hl, hr, hpl, hpr⟩ => ⟨⟨hl, hpl⟩, hr, hpr⟩, fun ⟨⟨hl, hpl⟩, hr, hpr⟩ => ⟨hl, hr, hpl, hpr⟩⟩

theorem heapBelow_node {B : Nat} {l r : Tree} {i : Item} {a b : Nat} {p q : Option Ploc} :
    HeapBelow B (node l i a b r p q) ↔ HeapBelow i.prio l ∧ HeapBelow i.prio r ∧ i.prio ≤ B := by
  simp only [HeapBelow, heapOK_node, rootPrio, Option.some.injEq, forall_eq', and_assoc]

theorem HeapBelow.mono {B B' : Nat} {t : Tree} (h : HeapBelow B t) (hB : B ≤ B') : HeapBelow B' t :=
  ⟨h.1, fun p hp => Nat.le_trans (h.2 p hp) hB⟩

theorem HeapOK.below : ∀ {t : Tree}, HeapOK t → ∃ B, HeapBelow B t
  | nil, _ => ⟨0, heapBelow_nil 0⟩
  | node _ i _ _ _ _ _, h =>
    ⟨i.prio, heapBelow_node.mpr ⟨(heapOK_node.mp h).1, (heapOK_node.mp h).2, Nat.le_refl _⟩⟩

section heap
variable (cmp : Bytes → Bytes → Ordering)

theorem split_heapBelow {B : Nat} (t : Tree) (s : Bytes) (ht : HeapBelow B t) :
    HeapBelow B (split cmp t s).1 ∧ HeapBelow B (split cmp t s).2.1 ∧
      HeapBelow B (split cmp t s).2.2 := by
  fun_induction split cmp t s generalizing B
  case case1 => exact ⟨ht, ht, ht⟩
  case case2 =>
    obtain ⟨hl, hr, hi⟩ := heapBelow_node.mp ht
    exact ⟨hl.mono hi, ht, hr.mono hi⟩
  case case3 => exact ⟨heapBelow_nil B, heapBelow_nil B, ht⟩
  case case4 ih =>
    -- the parts of the left subtree are below the node's priority, which is below `B`
    obtain ⟨hl, hr, hi⟩ := heapBelow_node.mp ht
    exact ⟨(ih hl).1.mono hi, (ih hl).2.1.mono hi, heapBelow_node.mpr ⟨(ih hl).2.2, hr, hi⟩⟩
  case case5 => exact ⟨ht, heapBelow_nil B, heapBelow_nil B⟩
  case case6 ih =>
    obtain ⟨hl, hr, hi⟩ := heapBelow_node.mp ht
    exact ⟨heapBelow_node.mpr ⟨hl, (ih hr).1, hi⟩, (ih hr).2.1.mono hi, (ih hr).2.2.mono hi⟩

theorem join_heapBelow {B : Nat} {a b : Tree} (ha : HeapBelow B a) (hb : HeapBelow B b) :
    HeapBelow B (join a b) := by
  fun_induction join a b generalizing B
  case case1 => exact hb
  case case2 => exact ha
  case case3 h ih =>
    -- `a`'s root stays the root: `b`, whose root it outranks, goes below it
    obtain ⟨hl, hr, hi⟩ := heapBelow_node.mp ha
    obtain ⟨hl2, hr2, _⟩ := heapBelow_node.mp hb
    exact heapBelow_node.mpr ⟨hl, ih hr (heapBelow_node.mpr ⟨hl2, hr2, Nat.le_of_lt h⟩), hi⟩
  case case4 h ih =>
    obtain ⟨hl, hr, hi⟩ := heapBelow_node.mp hb
    obtain ⟨hl1, hr1, _⟩ := heapBelow_node.mp ha
    exact heapBelow_node.mpr ⟨ih (heapBelow_node.mpr ⟨hl1, hr1, Nat.le_of_not_gt h⟩) hl, hr, hi⟩

theorem delete_heap {t : Tree} (h : HeapOK t) (k : Bytes) : HeapOK (delete cmp t k).1 := by
  unfold delete
  split
  · exact h
  · obtain ⟨B, hB⟩ := h.below
    have hs := split_heapBelow cmp t k hB
    exact (join_heapBelow hs.1 hs.2.2).1

end heap

end Tree
end Gkv

open Gkv Tree in
#print axioms join_toList
open Gkv Tree in
#print axioms join_bst
open Gkv Tree in
#print axioms delete_bst
open Gkv Tree in
#print axioms delete_toList
open Gkv Tree in
#print axioms delete_wasDeleted
open Gkv Tree in
#print axioms setItem_agg
open Gkv Tree in
#print axioms delete_agg
open Gkv Tree in
#print axioms totals_eq
open Gkv Tree in
#print axioms delete_heap
