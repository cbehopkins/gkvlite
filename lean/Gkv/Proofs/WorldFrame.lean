/-
What one operation of the history interpreter (`Gkv.Model.World`) can touch: the basis of C04
"snapshots are isolated, read-only, and harmless to the original".  In the model a snapshot is a
VALUE copy of a store (`snap S S2` stores `{ st with readOnly := true }` under key S2), so isolation
is a frame property of `stepTokens` / `step`: the `Footprint` of an operation.

`stepTokens` is one `match` with ~50 string-literal arms.  The equation and splitter lemmas Lean
would generate for it on demand (`split`, `simp [stepTokens]`) exceed the heartbeat budget, so
statements about ALL token lists go through `stepTokens.match_cases`, which hands over the arms
themselves (statements about ONE operation select the arm with `step_reduce`, `Proofs/WorldOps.lean`).
-/
import Gkv.Proofs.WorldOps

namespace Gkv

theorem dite_cases {α : Sort _} {Q : α → Prop} {c : Prop} [Decidable c] {t : c → α} {e : ¬c → α}
    (ht : ∀ h, Q (t h)) (he : ∀ h, Q (e h)) : Q (dite c t e) := by
  split
  · exact ht _
  · exact he _

/-- To prove `P ts (match ts with | ["reset"] => k_reset () | ["mem", a] => k_mem a | … | ts => k_bad ts)`
    prove it of every arm and of the default arm for every `ts`. -/
theorem stepTokens.match_cases {α : Type} {P : List String → α → Prop}
    {k_reset k_heapcheck k_refcheck k_refbalance : Unit → α}
    {k_mem k_cfg k_rmfile k_appendcheck k_rmark k_kreads k_readsok1 k_openreads k_decodehex k_churn k_unfault k_opendump k_close k_drop k_names k_flush k_revert k_dump k_image k_imagehex k_wlog : String → α}
    {k_open k_readsok2 k_setcoll k_rmcoll k_totals k_len k_random k_snap k_shape : String → String → α}
    {k_fault k_del k_get k_exist k_min k_max k_fill k_evict k_crash : String → String → String → α}
    {k_geti k_blocks k_copy : String → String → String → String → α}
    {k_crashopen k_setroot k_set : String → String → String → String → String → α}
    {k_iter k_visit : String → String → String → String → String → String → α}
    {k_bad : List String → α}
    (h_reset : P ["reset"] (k_reset ()))
    (h_mem : ∀ a1, P ["mem", a1] (k_mem a1))
    (h_open : ∀ a1 a2, P ["open", a1, a2] (k_open a1 a2))
    (h_cfg : ∀ a1, P ["cfg", a1] (k_cfg a1))
    (h_rmfile : ∀ a1, P ["rmfile", a1] (k_rmfile a1))
    (h_heapcheck : P ["heapcheck"] (k_heapcheck ()))
    (h_appendcheck : ∀ a1, P ["appendcheck", a1] (k_appendcheck a1))
    (h_rmark : ∀ a1, P ["rmark", a1] (k_rmark a1))
    (h_kreads : ∀ a1, P ["kreads", a1] (k_kreads a1))
    (h_readsok2 : ∀ a1 a2, P ["readsok", a1, a2] (k_readsok2 a1 a2))
    (h_readsok1 : ∀ a1, P ["readsok", a1] (k_readsok1 a1))
    (h_openreads : ∀ a1, P ["openreads", a1] (k_openreads a1))
    (h_decodehex : ∀ a1, P ["decodehex", a1] (k_decodehex a1))
    (h_crashopen : ∀ a1 a2 a3 a4 a5, P ["crashopen", a1, a2, a3, a4, a5] (k_crashopen a1 a2 a3 a4 a5))
    (h_setroot : ∀ a1 a2 a3 a4 a5, P ["setroot", a1, a2, a3, a4, a5] (k_setroot a1 a2 a3 a4 a5))
    (h_iter : ∀ a1 a2 a3 a4 a5 a6, P ["iter", a1, a2, a3, a4, a5, a6] (k_iter a1 a2 a3 a4 a5 a6))
    (h_refcheck : P ["refcheck"] (k_refcheck ()))
    (h_refbalance : P ["refbalance"] (k_refbalance ()))
    (h_churn : ∀ a1, P ["churn", a1] (k_churn a1))
    (h_fault : ∀ a1 a2 a3, P ["fault", a1, a2, a3] (k_fault a1 a2 a3))
    (h_unfault : ∀ a1, P ["unfault", a1] (k_unfault a1))
    (h_opendump : ∀ a1, P ["opendump", a1] (k_opendump a1))
    (h_close : ∀ a1, P ["close", a1] (k_close a1))
    (h_drop : ∀ a1, P ["drop", a1] (k_drop a1))
    (h_setcoll : ∀ a1 a2, P ["setcoll", a1, a2] (k_setcoll a1 a2))
    (h_rmcoll : ∀ a1 a2, P ["rmcoll", a1, a2] (k_rmcoll a1 a2))
    (h_names : ∀ a1, P ["names", a1] (k_names a1))
    (h_set : ∀ a1 a2 a3 a4 a5, P ["set", a1, a2, a3, a4, a5] (k_set a1 a2 a3 a4 a5))
    (h_del : ∀ a1 a2 a3, P ["del", a1, a2, a3] (k_del a1 a2 a3))
    (h_get : ∀ a1 a2 a3, P ["get", a1, a2, a3] (k_get a1 a2 a3))
    (h_geti : ∀ a1 a2 a3 a4, P ["geti", a1, a2, a3, a4] (k_geti a1 a2 a3 a4))
    (h_exist : ∀ a1 a2 a3, P ["exist", a1, a2, a3] (k_exist a1 a2 a3))
    (h_min : ∀ a1 a2 a3, P ["min", a1, a2, a3] (k_min a1 a2 a3))
    (h_max : ∀ a1 a2 a3, P ["max", a1, a2, a3] (k_max a1 a2 a3))
    (h_totals : ∀ a1 a2, P ["totals", a1, a2] (k_totals a1 a2))
    (h_len : ∀ a1 a2, P ["len", a1, a2] (k_len a1 a2))
    (h_blocks : ∀ a1 a2 a3 a4, P ["blocks", a1, a2, a3, a4] (k_blocks a1 a2 a3 a4))
    (h_random : ∀ a1 a2, P ["random", a1, a2] (k_random a1 a2))
    (h_fill : ∀ a1 a2 a3, P ["fill", a1, a2, a3] (k_fill a1 a2 a3))
    (h_evict : ∀ a1 a2 a3, P ["evict", a1, a2, a3] (k_evict a1 a2 a3))
    (h_flush : ∀ a1, P ["flush", a1] (k_flush a1))
    (h_snap : ∀ a1 a2, P ["snap", a1, a2] (k_snap a1 a2))
    (h_revert : ∀ a1, P ["revert", a1] (k_revert a1))
    (h_copy : ∀ a1 a2 a3 a4, P ["copy", a1, a2, a3, a4] (k_copy a1 a2 a3 a4))
    (h_visit : ∀ a1 a2 a3 a4 a5 a6, P ["visit", a1, a2, a3, a4, a5, a6] (k_visit a1 a2 a3 a4 a5 a6))
    (h_dump : ∀ a1, P ["dump", a1] (k_dump a1))
    (h_shape : ∀ a1 a2, P ["shape", a1, a2] (k_shape a1 a2))
    (h_image : ∀ a1, P ["image", a1] (k_image a1))
    (h_imagehex : ∀ a1, P ["imagehex", a1] (k_imagehex a1))
    (h_wlog : ∀ a1, P ["wlog", a1] (k_wlog a1))
    (h_crash : ∀ a1 a2 a3, P ["crash", a1, a2, a3] (k_crash a1 a2 a3))
    (h_bad : ∀ ts, P ts (k_bad ts)) (ts : List String) :
    P ts (stepTokens.match_51 (fun _ => α) ts k_reset k_mem k_open k_cfg k_rmfile k_heapcheck k_appendcheck k_rmark k_kreads k_readsok2 k_readsok1 k_openreads k_decodehex k_crashopen k_setroot k_iter k_refcheck k_refbalance k_churn k_fault k_unfault k_opendump k_close k_drop k_setcoll k_rmcoll k_names k_set k_del k_get k_geti k_exist k_min k_max k_totals k_len k_blocks k_random k_fill k_evict k_flush k_snap k_revert k_copy k_visit k_dump k_shape k_image k_imagehex k_wlog k_crash k_bad) := by
  -- the matcher tests the head token against the 50 literals in turn; under each test the tail is
  -- taken apart as far as the longest pattern goes (6 tokens), and either one of the arms fits
  -- or the default arm answers.  All of this follows the arms of `stepTokens` in `Model/World.lean`
  -- and has to be changed with them: the order of the `k_…`, the `iterate 50` (51 arms, `readsok`
  -- twice), the depth of the `rcases`, and the name `match_51` (Lean's numbering of the matchers
  -- of `stepTokens`: it also moves when a `match` inside an arm is added or removed)
  unfold stepTokens.match_51
  rcases ts with _ | ⟨a, rest⟩
  · exact h_bad _
  iterate 50
    refine dite_cases (fun h => ?_) (fun _ => ?_)
    · subst h
      rcases rest with _ | ⟨x1, _ | ⟨x2, _ | ⟨x3, _ | ⟨x4, _ | ⟨x5, _ | ⟨x6, _ | ⟨x7, r⟩⟩⟩⟩⟩⟩⟩ <;>
        first | exact h_bad _ | apply_assumption
  exact h_bad _

theorem putColl_frame (w : World) {s t : Nat} (st : Store) (c : Coll) (h : ¬ s = t) :
    assocGet t (putColl w s st c).stores = assocGet t w.stores :=
  assocGet_assocSet_ne _ _ h

theorem putColl_files (w : World) (s : Nat) (st : Store) (c : Coll) :
    (putColl w s st c).files = w.files := rfl

theorem withColl_cases {Q : World × String → Prop} {w : World} {s : Nat} {n : Bytes}
    {k : Store → Coll → World × String} (hw : ∀ o, Q (w, o)) (hk : ∀ st c, Q (k st c)) :
    Q (withColl w s n k) := by
  unfold withColl
  split
  · exact hw _
  · split
    · exact hw _
    · exact hk _ _

/-- head tokens of the operations that only observe (or that are no-ops of the model) -/
def readOps : List String :=
  ["names", "get", "geti", "exist", "min", "max", "totals", "len", "evict", "blocks", "random",
   "visit", "dump", "shape", "image", "imagehex", "wlog", "crash", "heapcheck", "refcheck",
   "refbalance", "appendcheck", "rmark", "kreads", "readsok", "openreads", "decodehex", "opendump",
   "iter", "cfg", "churn"]

def isReadOp : List String → Bool
  | [] => false
  | op :: _ => readOps.contains op

/-- the store ids an operation may create, replace or remove -/
def writesStore (ts : List String) (s : Nat) : Prop :=
  if isReadOp ts = true then False else
  match ts with
  | ["reset"] => True
  | "snap" :: _ :: s2 :: _ => s2.toNat? = some s
  | "copy" :: _ :: s2 :: _ => s2.toNat? = some s
  | "crashopen" :: _ :: _ :: _ :: _ :: s' :: _ => s'.toNat? = some s
  | _ :: s' :: _ => s'.toNat? = some s
  | _ => False

instance (ts : List String) (s : Nat) : Decidable (writesStore ts s) := by
  unfold writesStore
  split
  · infer_instance
  · split <;> infer_instance

/-- the head tokens of the operations of `stepTokens` that change the world and whose second token is
    the number of the store they act on (`rmfile`, `fault`: of the file; `writesStore` takes that
    for a store too) -/
def plainOps : List String :=
  ["mem", "open", "rmfile", "setroot", "fault", "close", "drop", "setcoll", "rmcoll", "set", "del",
   "fill", "flush", "revert"]

/-- every head token of `stepTokens` that is not a read operation -/
def writeOps : List String := ["reset", "snap", "copy", "crashopen", "unfault"] ++ plainOps

-- a finite table, so evaluated, and by the kernel: its 589 string comparisons in one call cost
-- what those of four head tokens with `readOps` cost the elaborator
theorem writeOps_not_read : ∀ op ∈ writeOps, readOps.contains op = false := by decide +kernel

theorem plainOps_plain : ∀ op ∈ plainOps, op ≠ "snap" ∧ op ≠ "copy" ∧ op ≠ "crashopen" := by
  decide +kernel

theorem not_read {op : String} {rest : List String} (h : op ∈ writeOps) :
    ¬ isReadOp (op :: rest) = true := by
  rw [isReadOp, writeOps_not_read op h]
  exact Bool.false_ne_true

theorem writesStore_plain : ∀ op ∈ plainOps, ∀ {s' : String} {rest : List String} {k : Nat},
    s'.toNat? = some k → writesStore (op :: s' :: rest) k := by
  intro op hop s' rest k hs
  obtain ⟨h1, h2, h3⟩ := plainOps_plain op hop
  unfold writesStore
  rw [if_neg (not_read (List.mem_append_right _ hop))]
  split
  · next h => cases h
  · next h => cases h; exact absurd rfl h1
  · next h => cases h; exact absurd rfl h2
  · next h => cases h; exact absurd rfl h3
  · next h => cases h; exact hs
  · next h => exact absurd rfl (h _ _ _)

theorem writesStore_reset (k : Nat) : writesStore ["reset"] k := by
  unfold writesStore
  -- `reset` is entry 0 of `writeOps`: read off the table, no string is compared
  rw [if_neg (not_read (List.mem_of_getElem? (i := 0) rfl))]
  trivial

theorem writesStore_snap {a s2 : String} {rest : List String} {k : Nat} (hs : s2.toNat? = some k) :
    writesStore ("snap" :: a :: s2 :: rest) k := by
  unfold writesStore
  rw [if_neg (not_read (List.mem_of_getElem? (i := 1) rfl))]
  exact hs

theorem writesStore_copy {a s2 : String} {rest : List String} {k : Nat} (hs : s2.toNat? = some k) :
    writesStore ("copy" :: a :: s2 :: rest) k := by
  unfold writesStore
  rw [if_neg (not_read (List.mem_of_getElem? (i := 2) rfl))]
  exact hs

theorem writesStore_crashopen {a b c e s' : String} {rest : List String} {k : Nat}
    (hs : s'.toNat? = some k) : writesStore ("crashopen" :: a :: b :: c :: e :: s' :: rest) k := by
  unfold writesStore
  rw [if_neg (not_read (List.mem_of_getElem? (i := 3) rfl))]
  exact hs

theorem writesStore_singleton {x : String} {s : Nat} (h : writesStore [x] s) : x = "reset" := by
  unfold writesStore at h
  split at h
  · exact h.elim
  · split at h
    · next e => cases e; rfl
    · next e => cases e
    · next e => cases e
    · next e => cases e
    · next e => cases e
    · exact h.elim

/-- `w'` differs from `w` by no more than the operation `ts` may do: a read changes nothing, any
    other operation leaves the stores it does not name alone, and only `fault`, `unfault` and
    `reset` touch the armed fault (files are not restricted) -/
structure Footprint (w : World) (ts : List String) (w' : World) : Prop where
  read : isReadOp ts = true → w' = w
  stores : ∀ t, ¬ writesStore ts t → assocGet t w'.stores = assocGet t w.stores
  fault : ts.head? ∉ [some "fault", some "unfault", some "reset"] → w'.fault = w.fault

namespace Footprint
variable {w w' : World} {ts : List String}

theorem of_eq (h : w' = w) : Footprint w ts w' :=
  ⟨fun _ => h, fun _ _ => by rw [h], fun _ => by rw [h]⟩

/-- `writesStore ts s` is `False` on reads, so the one fact `hs` serves all three fields -/
theorem of_writes {s : Nat} (hs : writesStore ts s)
    (h : ∀ t, ¬ s = t → assocGet t w'.stores = assocGet t w.stores) (hf : w'.fault = w.fault) :
    Footprint w ts w' :=
  ⟨fun hr => by simp [writesStore, hr] at hs, fun t ht => h t fun e => ht (e ▸ hs), fun _ => hf⟩

theorem withColl {s : Nat} {n : Bytes} {k : Store → Coll → World × String}
    (hk : ∀ st c, Footprint w ts (k st c).1) : Footprint w ts (withColl w s n k).1 :=
  withColl_cases (Q := fun r => Footprint w ts r.1) (fun _ => of_eq rfl) hk

end Footprint

-- `writesStore` is sealed from here on: elaborating any term against the expected type
-- `writesStore [lit, …] s` makes Lean reduce that type, i.e. compare `lit` with all of `readOps`,
-- and every `.of_writes hw` of the writing arms below does so
attribute [local irreducible] writesStore

theorem stepTokens_footprint (w : World) (ts : List String) : Footprint w ts (stepTokens w ts).1 := by
  have p := writesStore_plain
  simp only [plainOps, List.forall_mem_cons] at p
  obtain ⟨pmem, popen, prmfile, psetroot, pfault, pclose, pdrop, psetcoll, prmcoll, pset, pdel,
    pfill, pflush, prevert, -⟩ := p
  unfold stepTokens
  apply stepTokens.match_cases (P := fun ts (r : World × String) => Footprint w ts r.1)
  -- the operations that read: every leaf of the arm is `(w, _)`
  case h_bad | h_cfg | h_heapcheck | h_appendcheck | h_rmark | h_kreads | h_readsok1 | h_refcheck
      | h_refbalance | h_churn =>
    intros; exact .of_eq rfl
  case h_readsok2 | h_opendump | h_image | h_imagehex | h_wlog | h_crash =>
    intros; split <;> exact .of_eq rfl
  case h_iter | h_get | h_geti | h_exist | h_min | h_max | h_totals | h_len | h_evict | h_visit | h_shape =>
    intros; split
    · exact .withColl fun _ _ => .of_eq rfl
    · exact .of_eq rfl
  case h_random =>
    intros; split
    · refine .withColl fun _ _ => ?_
      split <;> exact .of_eq rfl
    · exact .of_eq rfl
  case h_blocks =>
    intros; split
    · refine .withColl fun _ _ => ?_
      dsimp only
      split <;> exact .of_eq rfl
    · exact .of_eq rfl
  case h_names | h_dump =>
    intros; split
    · split <;> exact .of_eq rfl
    · exact .of_eq rfl
  case h_openreads =>
    intros; split
    · dsimp only
      split
      · exact .of_eq rfl
      · split
        · split <;> exact .of_eq rfl
        · exact .of_eq rfl
    · exact .of_eq rfl
  case h_decodehex =>
    intros; split
    · exact .of_eq rfl
    · split <;> exact .of_eq rfl
  -- the operations that write: `hw` says that the store id `s` parsed from the line is one
  -- `writesStore` names; every leaf is then `w` itself or `w` with store `s` replaced
  case h_reset =>
    exact ⟨fun h => absurd h (not_read (List.mem_of_getElem? (i := 0) rfl)), fun t h => absurd (writesStore_reset t) h,
      fun h => absurd (by simp) h⟩
  case h_unfault =>
    intro a
    exact ⟨fun h => absurd h (not_read (List.mem_of_getElem? (i := 4) rfl)), fun _ _ => rfl, fun h => absurd (by simp) h⟩
  case h_fault =>
    intro a b c; split
    · exact ⟨fun h => absurd h (not_read (List.mem_of_getElem? (i := 9) rfl)), fun _ _ => rfl,
        fun h => absurd (by simp) h⟩
    · exact .of_eq rfl
  case h_mem =>
    intro a; split
    · rename_i s hs
      have hw : writesStore ["mem", a] s := pmem hs
      exact .of_writes hw (fun t h => assocGet_assocSet_ne _ _ h) rfl
    · exact .of_eq rfl
  case h_open =>
    intro a b; split
    · rename_i s f hs _
      have hw : writesStore ["open", a, b] s := popen hs
      dsimp only
      split
      · exact .of_writes hw (fun t h => assocGet_assocSet_ne _ _ h) rfl
      · exact .of_writes hw (fun _ _ => rfl) rfl
      · exact .of_writes hw (fun _ _ => rfl) rfl
    · exact .of_eq rfl
  case h_rmfile =>
    intro a; split
    · rename_i f hf
      have hw : writesStore ["rmfile", a] f := prmfile hf
      exact .of_writes hw (fun _ _ => rfl) rfl
    · exact .of_eq rfl
  case h_crashopen =>
    intro a b c d e; split
    · rename_i _ _ _ _ s _ _ _ _ hs
      have hw : writesStore ["crashopen", a, b, c, d, e] s := writesStore_crashopen hs
      dsimp only
      split
      · exact .of_writes hw (fun t h => assocGet_assocSet_ne _ _ h) rfl
      · exact .of_writes hw (fun _ _ => rfl) rfl
      · exact .of_writes hw (fun _ _ => rfl) rfl
    · exact .of_eq rfl
  case h_close =>
    intro a; split
    · rename_i s hs
      have hw : writesStore ["close", a] s := pclose hs
      split
      · exact .of_writes hw (fun t h => assocGet_assocDel_ne _ h) rfl
      · exact .of_eq rfl
    · exact .of_eq rfl
  case h_drop =>
    intro a; split
    · rename_i s hs
      have hw : writesStore ["drop", a] s := pdrop hs
      exact .of_writes hw (fun t h => assocGet_assocDel_ne _ h) rfl
    · exact .of_eq rfl
  case h_setcoll =>
    intro a b; split
    · rename_i s _ hs _
      have hw : writesStore ["setcoll", a, b] s := psetcoll hs
      split
      · exact .of_eq rfl
      · exact .of_writes hw (fun t h => putColl_frame w _ _ h) rfl
    · exact .of_eq rfl
  case h_rmcoll =>
    intro a b; split
    · rename_i s _ hs _
      have hw : writesStore ["rmcoll", a, b] s := prmcoll hs
      split
      · exact .of_eq rfl
      · exact .of_writes hw (fun t h => assocGet_assocSet_ne _ _ h) rfl
    · exact .of_eq rfl
  case h_snap =>
    intro a b; split
    · rename_i _ s2 _ hs
      have hw : writesStore ["snap", a, b] s2 := writesStore_snap hs
      split
      · exact .of_eq rfl
      · exact .of_writes hw (fun t h => assocGet_assocSet_ne _ _ h) rfl
    · exact .of_eq rfl
  case h_copy =>
    intro a b c d; split
    · rename_i _ s2 _ _ _ hs _ _
      have hw : writesStore ["copy", a, b, c, d] s2 := writesStore_copy hs
      split
      · exact .of_eq rfl
      · exact .of_writes hw (fun t h => assocGet_assocSet_ne _ _ h) rfl
    · exact .of_eq rfl
  case h_setroot =>
    intro a b c d e; split
    · rename_i s _ _ _ _ hs _ _ _ _
      have hw : writesStore ["setroot", a, b, c, d, e] s := psetroot hs
      refine .withColl fun st c => ?_
      split
      · exact .of_eq rfl
      · exact .of_writes hw (fun t h => putColl_frame w _ _ h) rfl
    · exact .of_eq rfl
  case h_set =>
    intro a b c d e; split
    · rename_i s _ _ _ _ hs _ _ _ _
      have hw : writesStore ["set", a, b, c, d, e] s := pset hs
      refine .withColl fun st c => ?_
      split
      · exact .of_eq rfl
      · split
        · exact .of_eq rfl
        · exact .of_writes hw (fun t h => putColl_frame w _ _ h) rfl
    · exact .of_eq rfl
  case h_del =>
    intro a b c; split
    · rename_i s _ _ hs _ _
      have hw : writesStore ["del", a, b, c] s := pdel hs
      refine .withColl fun st c => ?_
      split
      · exact .of_eq rfl
      · exact .of_writes hw (fun t h => putColl_frame w _ _ h) rfl
    · exact .of_eq rfl
  case h_fill =>
    intro a b c; split
    · rename_i s _ _ hs _ _
      have hw : writesStore ["fill", a, b, c] s := pfill hs
      refine .withColl fun st c => ?_
      split
      · exact .of_eq rfl
      · exact .of_writes hw (fun t h => putColl_frame w _ _ h) rfl
    · exact .of_eq rfl
  case h_flush =>
    intro a; split
    · rename_i s hs
      have hw : writesStore ["flush", a] s := pflush hs
      split
      · exact .of_eq rfl
      · split
        · exact .of_eq rfl
        · split
          · exact .of_eq rfl
          · exact .of_writes hw (fun t h => assocGet_assocSet_ne _ _ h) rfl
    · exact .of_eq rfl
  case h_revert =>
    intro a; split
    · rename_i s hs
      have hw : writesStore ["revert", a] s := prevert hs
      split
      · exact .of_eq rfl
      · split
        · exact .of_eq rfl
        · dsimp only
          split
          · exact .of_eq rfl
          · exact .of_writes hw (fun t h => assocGet_assocSet_ne _ _ h) rfl
    · exact .of_eq rfl

theorem reads_change_nothing (w : World) (ts : List String) (hread : isReadOp ts = true) :
    (stepTokens w ts).1 = w :=
  (stepTokens_footprint w ts).read hread

theorem stepTokens_frame (w : World) (ts : List String) (s : Nat) (h : ¬ writesStore ts s) :
    assocGet s (stepTokens w ts).1.stores = assocGet s w.stores :=
  (stepTokens_footprint w ts).stores s h

/-- the stores a token list may write when run through `stepTokens2` -/
def writesStore2 (ts : List String) (s : Nat) : Prop :=
  match ts with
  | "nvisit" :: _ :: _ :: _ :: _ :: _ :: _ :: "|" :: nested => writesStore nested s
  | "failop" :: rest => writesStore rest s
  | _ => writesStore ts s

def lineTokens (line : String) : List String := (line.splitOn " ").filter (· ≠ "")

/-- the stores an operation line may create, replace or remove -/
def writesStoreLine (line : String) (s : Nat) : Prop := writesStore2 (lineTokens line) s

instance (ts : List String) (s : Nat) : Decidable (writesStore2 ts s) := by
  unfold writesStore2; split <;> infer_instance

instance (line : String) (s : Nat) : Decidable (writesStoreLine line s) := by
  unfold writesStoreLine; infer_instance

theorem stepTokens2_frame (w : World) (ts : List String) (s : Nat) (h : ¬ writesStore2 ts s) :
    assocGet s (stepTokens2 w ts).1.stores = assocGet s w.stores := by
  unfold stepTokens2
  split
  · -- nvisit: the world is `w` or what the nested operation makes of it
    rename_i a n dir t wv pos nested
    have hf := stepTokens_frame w nested s (by simpa [writesStore2] using h)
    generalize stepTokens w ["visit", a, n, dir, t, wv, "-1"] = vis
    dsimp only
    split
    · rfl
    · split
      · split <;> split
        · exact hf
        · rfl
        · exact hf
        · rfl
      · rfl
  · rename_i op rest
    have hn : ¬ writesStore (op :: rest) s := by simpa [writesStore2] using h
    split
    · split
      · rename_i s' hs'
        exact assocGet_assocDel_ne _ fun e => hn (writesStore_plain _ (List.mem_of_getElem? (i := 13) rfl) (e ▸ hs'))
      · rfl
    · exact stepTokens_frame w _ s hn
    · split <;> rfl
    · rfl
  · rename_i hnv hfo
    refine stepTokens_frame w ts s ?_
    unfold writesStore2 at h
    split at h
    · exact absurd rfl (hnv _ _ _ _ _ _ _)
    · rename_i rest
      cases rest with
      | nil => exact fun hw => absurd (writesStore_singleton hw) (by decide)
      | cons op r => exact absurd rfl (hfo op r)
    · exact h

theorem step_frame (w : World) (line : String) (s : Nat) (h : ¬ writesStoreLine line s) :
    assocGet s (step w line).1.stores = assocGet s w.stores :=
  stepTokens2_frame w _ s h

theorem history_frame (w : World) (lines : List String) (s : Nat)
    (h : ∀ l ∈ lines, ¬ writesStoreLine l s) :
    assocGet s (lines.foldl (fun w l => (step w l).1) w).stores = assocGet s w.stores :=
  List.foldlRecOn (motive := fun w' => assocGet s w'.stores = assocGet s w.stores) lines _ rfl
    fun w' hw' l hl => (step_frame w' l s (h l hl)).trans hw'

/-- a snapshot keeps the value the store had when it was taken, through every history none of
    whose operations targets the snapshot's id (reads through the snapshot are allowed:
    `writesStore` is empty for read operations) -/
theorem snapshot_isolated (w : World) (s s2 : String) (a b : Nat) (st : Store)
    (ha : s.toNat? = some a) (hb : s2.toNat? = some b) (hst : assocGet a w.stores = some st)
    (lines : List String) (h : ∀ l ∈ lines, ¬ writesStoreLine l b) :
    assocGet b (lines.foldl (fun w l => (step w l).1) (stepTokens w ["snap", s, s2]).1).stores
      = some { st with readOnly := true } := by
  rw [history_frame _ lines b h, snap_is_value w s s2 a b st ha hb hst]

end Gkv
