/-
The treap as a sorted map: `get` is `Spec.lookup` on the in-order list, `union` keeps search order
and looks up like "right operand first", `setItem` is `Spec.insert`.  The link to the list is
`split_cut`: `split` at `s` cuts a search tree's in-order list at `s` (`Spec.Cut`), with `get t s` in
the middle; and a sorted list is determined by its lookups (`sorted_ext`, `bst_ext`).

The comparator is only assumed to be `Std.TransCmp`; it need not be lawful (two different keys
may compare `.eq`), so nothing here ever concludes `a = b` from `cmp a b = .eq`.
-/
import Gkv.Proofs.Split
import Gkv.Proofs.SpecList
open Std

namespace Gkv

namespace Spec

variable (cmp : Bytes → Bytes → Ordering) [Std.TransCmp cmp]

/-- a sorted list finds each of its items under the item's key: it is cut there -/
theorem lookup_of_mem {l : List Item} (h : Sorted cmp l) {x : Item} (hx : x ∈ l) :
    lookup cmp l x.key = some x := by
  obtain ⟨L, R, rfl⟩ := List.append_of_mem hx
  have h' := List.pairwise_append.mp h
  exact Cut.lookup (m := some x) ⟨(List.append_assoc L [x] R).symm,
    fun j hj => h'.2.2 j hj x List.mem_cons_self, fun _ hj => Option.some.inj hj ▸ ReflCmp.compare_self,
    fun j hj => OrientedCmp.gt_of_lt (List.rel_of_pairwise_cons h'.2.1 hj)⟩

theorem sorted_ext : ∀ {l₁ l₂ : List Item}, Sorted cmp l₁ → Sorted cmp l₂ →
    (∀ k, lookup cmp l₁ k = lookup cmp l₂ k) → l₁ = l₂ := by
  intro l₁ l₂ h₁ h₂ h
  -- the lists have the same items, each once, in the one order that `cmp` allows
  have nodup {l} (hs : Sorted cmp l) : l.Nodup :=
    hs.imp fun hab e => by rw [e, ReflCmp.compare_self (cmp := cmp)] at hab; cases hab
  have sub {l l'} (hs : Sorted cmp l) (h : ∀ k, lookup cmp l k = lookup cmp l' k) {x} (hx : x ∈ l) :
      x ∈ l' := mem_of_lookup cmp (h x.key ▸ lookup_of_mem cmp hs hx)
  refine List.Perm.eq_of_pairwise (fun a b _ _ hab hba => ?_) h₁ h₂
    ((List.perm_ext_iff_of_nodup (nodup h₁) (nodup h₂)).mpr fun _ =>
      ⟨sub h₁ h, sub h₂ fun k => (h k).symm⟩)
  exact absurd (OrientedCmp.gt_of_lt hab) (by rw [hba]; nofun)

theorem insert_sorted : ∀ {l : List Item}, Sorted cmp l → ∀ i, Sorted cmp (insert cmp l i) := by
  intro l h i
  induction l with
  | nil => exact List.pairwise_singleton ..
  | cons j l ih =>
    obtain ⟨hj, hl⟩ := List.pairwise_cons.mp h
    rw [insert]
    split
    next hc =>
      exact List.pairwise_cons.mpr ⟨fun y hy => (List.mem_cons.mp hy).elim (· ▸ hc)
        fun hy => TransCmp.lt_trans hc (hj y hy), h⟩
    next hc => exact List.pairwise_cons.mpr ⟨fun y hy => TransCmp.lt_of_eq_of_lt hc (hj y hy), hl⟩
    next hc =>
      exact List.pairwise_cons.mpr ⟨fun y hy => (mem_insert cmp l i y hy).elim
        (· ▸ OrientedCmp.lt_of_gt hc) (hj y), ih hl⟩

/-- needs no sortedness: `insert` stops at the first item not below `i`, and `lookup` compares `k`
    with the same items on its way -/
theorem lookup_insert (l : List Item) (i : Item) (k : Bytes) :
    lookup cmp (insert cmp l i) k = if cmp k i.key = .eq then some i else lookup cmp l k := by
  induction l with
  | nil =>
    simp only [insert, lookup]
    cases cmp k i.key <;> rfl
  | cons j l ih =>
    rw [insert]
    split
    next hc =>
      -- `i` goes in front of `j`, and a `k` below `i` is below `j` too
      rw [lookup]
      cases hk : cmp k i.key
      · rw [lookup, TransCmp.lt_trans hk hc]
        rfl
      · rfl
      · rfl
    next hc =>
      -- `i` takes the place of `j`, with which every `k` compares as it does with `i`
      rw [lookup, lookup, ← TransCmp.congr_right (a := k) hc]
      cases cmp k i.key <;> rfl
    next hc =>
      -- `i` goes behind `j`, and a `k` not above `j` is below `i`
      rw [lookup, lookup, ih]
      cases hk : cmp k j.key
      · rw [TransCmp.lt_trans hk (OrientedCmp.lt_of_gt hc)]
        rfl
      · rw [TransCmp.lt_of_eq_of_lt hk (OrientedCmp.lt_of_gt hc)]
        rfl
      · rfl

end Spec

namespace Tree

variable (cmp : Bytes → Bytes → Ordering) [Std.TransCmp cmp]

omit [Std.TransCmp cmp] in
theorem get_node (l r : Tree) (i : Item) (a b : Nat) (p q : Option Ploc) (k : Bytes) :
    get cmp (node l i a b r p q) k =
      match cmp k i.key with
      | .lt => get cmp l k
      | .gt => get cmp r k
      | .eq => some i := rfl

/-- `split` cuts the in-order list of a search tree -/
theorem split_cut {t : Tree} (hb : BST cmp t) (s : Bytes) :
    Spec.Cut cmp s t.toList (split cmp t s).1.toList (get cmp t s) (split cmp t s).2.2.toList :=
  have h := split_bst cmp t s hb
  ⟨by rw [← split_toList cmp t s, split_root?, List.append_assoc], fun _ => h.2.2.1.mem,
    fun _ => get_key cmp, fun _ => h.2.2.2.mem⟩

theorem get_eq_lookup {t : Tree} (hb : BST cmp t) (k : Bytes) :
    get cmp t k = Spec.lookup cmp t.toList k :=
  (split_cut cmp hb k).lookup.symm

/-- two search trees that answer every `get` alike hold the same list -/
theorem bst_ext {t t' : Tree} (hb : BST cmp t) (hb' : BST cmp t')
    (h : ∀ k, get cmp t k = get cmp t' k) : t.toList = t'.toList :=
  Spec.sorted_ext cmp (toList_sorted cmp hb) (toList_sorted cmp hb') fun k => by
    rw [← get_eq_lookup cmp hb, ← get_eq_lookup cmp hb', h]

theorem get_eq_none_of_all_lt {s k : Bytes} {t : Tree} (ha : All (fun j => cmp j.key s = .lt) t)
    (hk : cmp k s ≠ .lt) : get cmp t k = none := by
  cases hg : get cmp t k with
  | none => rfl
  | some j =>
    have := get_some cmp ha hg
    exact absurd (TransCmp.lt_of_eq_of_lt this.2 this.1) hk

theorem get_eq_none_of_all_gt {s k : Bytes} {t : Tree} (ha : All (fun j => cmp j.key s = .gt) t)
    (hk : cmp k s ≠ .gt) : get cmp t k = none := by
  cases hg : get cmp t k with
  | none => rfl
  | some j =>
    have := get_some cmp ha hg
    exact absurd (TransCmp.gt_of_eq_of_gt this.2 this.1) hk

/-- `get` only sees how the key compares with the keys in the tree -/
theorem get_congr {k s : Bytes} (h : cmp k s = .eq) : ∀ t, get cmp t k = get cmp t s
  | nil => rfl
  | node l i _ _ r _ _ => by
    simp only [get, TransCmp.congr_left h, get_congr h l, get_congr h r]

/-- `get` looks for `k` where `split` at any `s` has put it.  No search order is needed: `get` and
    `split` go down the same path. -/
theorem get_split (t : Tree) (s k : Bytes) :
    get cmp t k = match cmp k s with
      | .lt => get cmp (split cmp t s).1 k
      | .eq => get cmp t s
      | .gt => get cmp (split cmp t s).2.2 k := by
  cases hk : cmp k s with
  | eq => exact get_congr cmp hk t
  | lt =>
    -- where `split` keeps the root on the right, `k` is below it; elsewhere `get` sees the same node
    fun_induction split cmp t s
    case case1 => rfl
    case case2 hs => simp only [get, TransCmp.lt_of_lt_of_eq hk hs]
    case case3 hs => simp only [get, TransCmp.lt_trans hk hs]
    case case4 hs _ ih => simp only [get, TransCmp.lt_trans hk hs, ih hk]
    case case5 => rfl
    case case6 ih => simp only [mk, get, ih hk]
  | gt =>
    fun_induction split cmp t s
    case case1 => rfl
    case case2 hs => simp only [get, TransCmp.gt_of_gt_of_eq hk hs]
    case case3 => rfl
    case case4 ih => simp only [mk, get, ih hk]
    case case5 hs => simp only [get, TransCmp.gt_trans hk hs]
    case case6 hs _ ih => simp only [get, TransCmp.gt_trans hk hs, ih hk]

theorem union_bst {a b : Tree} (ha : BST cmp a) (hb : BST cmp b) : BST cmp (union cmp a b) := by
  fun_induction union cmp a b
  case case1 => exact hb
  case case2 => exact ha
  case case3 hm ihl ihr =>
    obtain ⟨hal, har, haal, haar⟩ := ha
    have hs {s} := split_bst cmp _ s hb
    -- the root comes from `b`; its key is `cmp`-equal to that of `a`'s root
    have he := (split_mid_node cmp hm).2
    exact ⟨ihl hal hs.1, ihr har hs.2.1,
      All_imp (fun j hj => TransCmp.lt_of_lt_of_eq hj he) _ (union_all cmp haal hs.2.2.1),
      All_imp (fun j hj => TransCmp.gt_of_gt_of_eq hj he) _ (union_all cmp haar hs.2.2.2)⟩
  case case4 ihl ihr =>
    obtain ⟨hal, har, haal, haar⟩ := ha
    have hs {s} := split_bst cmp _ s hb
    exact ⟨ihl hal hs.1, ihr har hs.2.1, union_all cmp haal hs.2.2.1, union_all cmp haar hs.2.2.2⟩
  case case5 ihl ihr =>
    obtain ⟨hbl, hbr, hbbl, hbbr⟩ := hb
    have hs {s} := split_bst cmp _ s ha
    exact ⟨ihl hs.1 hbl, ihr hs.2.1 hbr, union_all cmp hs.2.2.1 hbbl, union_all cmp hs.2.2.2 hbbr⟩

/-- items of `b` take precedence over cmp-equal keys of `a`, whether or not the trees are search
    trees: `get`, `split` and `union` compare the same keys on the way down -/
theorem get_union_any (a b : Tree) (k : Bytes) :
    get cmp (union cmp a b) k = (get cmp b k).orElse (fun _ => get cmp a k) := by
  fun_induction union cmp a b with
  | case1 => cases get cmp _ k <;> rfl
  | case2 => rfl
  | case3 _ ai _ _ _ _ _ _ _ _ _ _ _ _ _ _ _ _ _ _ _ _ _ _ _ _ hm ihl ihr =>
    -- `a`'s root outranks `b`'s and its key is in `b`: the root is `b`'s item
    obtain ⟨hg, he⟩ := split_mid_node cmp hm
    rw [get_split cmp (node ..) ai.key k, hg, mk, get_node, get_node, ihl, ihr,
      ← TransCmp.congr_right he]
    cases cmp k ai.key <;> rfl
  | case4 _ ai _ _ _ _ _ _ _ _ _ _ _ _ _ _ _ _ _ hm ihl ihr =>
    -- … and its key is not in `b`: the root is `a`'s
    have hg := (split_root? cmp _ _).symm.trans (congrArg root? hm)
    rw [get_split cmp (node ..) ai.key k, hg, mk, get_node, get_node, ihl, ihr]
    cases cmp k ai.key <;> rfl
  | case5 al ai _ _ _ _ _ _ bi _ _ _ _ _ _ _ _ ihl ihr =>
    -- `b`'s root is the root
    rw [get_split cmp (node al ai ..) bi.key k, mk, get_node, get_node, ihl, ihr]
    cases cmp k bi.key <;> rfl

theorem get_union {a b : Tree} (ha : BST cmp a) (hb : BST cmp b) (k : Bytes) :
    get cmp (union cmp a b) k = (get cmp b k).orElse (fun _ => get cmp a k) :=
  get_union_any cmp a b k

omit [Std.TransCmp cmp] in
theorem bst_single (i : Item) (a b : Nat) (p q : Option Ploc) :
    BST cmp (node nil i a b nil p q) :=
  ⟨trivial, trivial, trivial, trivial⟩

theorem setItem_bst {t : Tree} (h : BST cmp t) (i : Item) : BST cmp (setItem cmp t i) :=
  union_bst cmp h (bst_single cmp ..)

/-- `setItem t i` answers every `get` as the search tree `mk L i R` does, `L` and `R` being the outer
    parts of `split t i.key`; and that tree's list is `Spec.insert`'s (`Cut.insert`) -/
theorem setItem_toList {t : Tree} (h : BST cmp t) (i : Item) :
    (setItem cmp t i).toList = Spec.insert cmp t.toList i := by
  have hs := split_bst cmp t i.key h
  rw [(split_cut cmp h i.key).insert, ← toList_mk (q := none)]
  refine bst_ext cmp (setItem_bst cmp h i) ⟨hs.1, hs.2.1, hs.2.2⟩ fun k => ?_
  rw [setItem, get_union_any, get_split cmp t i.key k]
  simp only [mk, get_node]
  cases cmp k i.key <;> rfl

end Tree
end Gkv
