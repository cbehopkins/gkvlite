import Gkv.Model.Basic
import Gkv.Model.Blocks
import Gkv.Model.Codec
import Gkv.Model.Conc
import Gkv.Model.Driver
import Gkv.Model.Iter
import Gkv.Model.Lazy
import Gkv.Model.Cache
import Gkv.Model.Machine
import Gkv.Model.MachineR
import Gkv.Model.Refs
import Gkv.Model.CasLoop
import Gkv.Model.CopyRace
import Gkv.Model.ScanFast
import Gkv.Model.Spec
import Gkv.Model.Store
import Gkv.Model.Treap
import Gkv.Model.Versions
import Gkv.Model.VersionsFine
import Gkv.Model.VersionsLeak
import Gkv.Model.World
import Gkv.Proofs.Blocks
import Gkv.Proofs.Bytes
import Gkv.Proofs.Codec
import Gkv.Proofs.CodecFull
import Gkv.Proofs.CoherentOps
import Gkv.Proofs.Colls
import Gkv.Proofs.CollsOK
import Gkv.Proofs.Conc
import Gkv.Proofs.CrashOpen
import Gkv.Proofs.FlushCoherent
import Gkv.Proofs.FlushFrame
import Gkv.Proofs.FlushTiles
import Gkv.Proofs.Restated
import Gkv.Proofs.FlushFault
import Gkv.Proofs.EraseLocs
import Gkv.Proofs.CopyContents
import Gkv.Proofs.Chunks
import Gkv.Proofs.Graph
import Gkv.Proofs.Heap
import Gkv.Proofs.Iter
import Gkv.Proofs.Lazy
import Gkv.Proofs.Cache
import Gkv.Proofs.CacheIO
import Gkv.Proofs.Machine
import Gkv.Proofs.MachineR
import Gkv.Proofs.Refs
import Gkv.Proofs.CopyCompact
import Gkv.Proofs.CasLoop
import Gkv.Proofs.CopyRace
import Gkv.Proofs.Scan
import Gkv.Proofs.SpecList
import Gkv.Proofs.Split
import Gkv.Proofs.TreapDel
import Gkv.Proofs.TreapSet
import Gkv.Proofs.VersionsFine
import Gkv.Proofs.VersionsLeak
import Gkv.Proofs.Visit
import Gkv.Proofs.WorldFrame
import Gkv.Proofs.WorldMachine
import Gkv.Proofs.WorldOps
import Gkv.Props.C01
import Gkv.Props.C02
import Gkv.Props.C03
import Gkv.Props.C04
import Gkv.Props.C05
import Gkv.Props.C06
import Gkv.Props.C07
import Gkv.Props.C08
import Gkv.Props.C09
import Gkv.Props.C10
import Gkv.Props.C11
import Gkv.Props.C12
import Gkv.Props.C13
import Gkv.Props.C14
import Gkv.Props.C15
import Gkv.Props.C16
import Gkv.Props.C17
import Gkv.Props.C18
import Gkv.Props.C19
import Gkv.Props.History
import Gkv.Props.Locks
import Gkv.Props.Pins
import Gkv.Props.WriteOrder
import Gkv.Gen.CallGraph
import Gkv.Gen.CallGraphView
import Gkv.Gen.Consts
import Gkv.Gen.Locks
import Gkv.Gen.Pins
import Gkv.Gen.Cas
import Gkv.Gen.WriteOrder
import Gkv.Gen.SlotCopies
import Gkv.Gen.IgnoredErrors
import Gkv.Gen.Callbacks
import Gkv.Gen.Sites
import Gkv.Model.FlushPin
import Gkv.Proofs.FlushPin
